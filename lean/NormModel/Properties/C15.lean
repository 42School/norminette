/-
C15 — exactly the requested C sources are checked.
`select` is the work-list loop of `main` over a file-system tree (A4: pathlib/glob behave as
`lookup`/`globCH` say; validated on every generated tree by the correspondence).
-/
import NormModel.Model.Cli
namespace Norm.C15
open Norm

/-- what one argument contributes to the selection -/
def contrib (root : FS) (a : List String) : List String :=
  match lookup root a with
  | .missing => []
  | .file =>
    let name := a.getLast?.getD ""
    if suffixOf name == ".c" || suffixOf name == ".h" then [joinPath a] else []
  | .dir => globCH root a

def isMissing (root : FS) (a : List String) : Bool := lookup root a == .missing

/-- explicit file arguments, in order -/
def explicitFiles (root : FS) (argv : List (List String)) : List String :=
  argv.flatMap fun a => if lookup root a == .file then contrib root a else []
/-- what directory arguments append to the work list, in order -/
def dirFiles (root : FS) (argv : List (List String)) : List String :=
  argv.flatMap fun a => if lookup root a == .dir then contrib root a else []

theorem foldl_selStep_noabort (root : FS) (argv : List (List String)) (s : SelSt)
    (hs : s.abort = false) (hm : ∀ a ∈ argv, isMissing root a = false) :
    (argv.foldl (selStep root) s).abort = false ∧
    (argv.foldl (selStep root) s).files = s.files ++ explicitFiles root argv ∧
    (argv.foldl (selStep root) s).app = s.app ++ dirFiles root argv := by
  -- one argument that exists: the loop goes on, a file adds itself to `files`, a directory its glob to `app`
  have step : ∀ (s : SelSt) (a : List String), s.abort = false → isMissing root a = false →
      (selStep root s a).abort = false ∧
      (selStep root s a).files = s.files ++ (if lookup root a == .file then contrib root a else []) ∧
      (selStep root s a).app = s.app ++ (if lookup root a == .dir then contrib root a else []) := by
    intro s a hs ha
    unfold isMissing at ha
    unfold selStep contrib
    cases hl : lookup root a with
    | missing => simp [hl] at ha
    | file => simp only [hs, Bool.false_eq_true, ↓reduceIte]; split <;> simp
    | dir => simp [hs]
  induction argv generalizing s with
  | nil => simp [explicitFiles, dirFiles, hs]
  | cons a rest ih =>
    obtain ⟨h1, h2, h3⟩ := step s a hs (hm a List.mem_cons_self)
    obtain ⟨i1, i2, i3⟩ := ih (selStep root s a) h1 fun b hb => hm b (List.mem_cons_of_mem _ hb)
    rw [List.foldl_cons, i2, i3, h2, h3]
    simp only [explicitFiles, dirFiles, List.flatMap_cons, List.append_assoc, and_self, and_true]
    exact i1

/-- **Exactly the requested sources.** When every argument exists, the selection is: the
named files with suffix `.c`/`.h` in argument order, followed by, for each directory
argument in order, the non-hidden `*.c`/`*.h` regular files below it — each mention of an
argument contributes once, nothing else is selected. -/
theorem selection (root : FS) (argv : List (List String)) (hne : argv ≠ [])
    (hm : ∀ a ∈ argv, isMissing root a = false) :
    (select root argv).abort = false ∧
    (select root argv).files = explicitFiles root argv ++ dirFiles root argv := by
  obtain ⟨h1, h2, h3⟩ := foldl_selStep_noabort root argv {} rfl hm
  unfold select
  cases argv with
  | nil => exact absurd rfl hne
  | cons a rest =>
    simp only
    rw [h1] at *
    simp only [Bool.false_eq_true, ↓reduceIte]
    refine ⟨trivial, ?_⟩
    rw [h2, h3]; simp

/-- once the loop has aborted it stays aborted and selects nothing more -/
theorem foldl_selStep_abort (root : FS) (argv : List (List String)) (s : SelSt) (hs : s.abort = true) :
    argv.foldl (selStep root) s = s := by
  induction argv with
  | nil => rfl
  | cons a rest ih =>
    simp only [List.foldl_cons]
    have : selStep root s a = s := by unfold selStep; simp [hs]
    rw [this]; exact ih

theorem foldl_selStep_missing (root : FS) (argv : List (List String)) (s : SelSt)
    (hm : ∃ a ∈ argv, isMissing root a = true) : (argv.foldl (selStep root) s).abort = true := by
  induction argv generalizing s with
  | nil => obtain ⟨a, ha, _⟩ := hm; cases ha
  | cons a rest ih =>
    simp only [List.foldl_cons]
    by_cases hs : s.abort = true
    · have : selStep root s a = s := by unfold selStep; simp [hs]
      rw [this, foldl_selStep_abort root rest s hs]; exact hs
    · by_cases ha : isMissing root a = true
      · have : (selStep root s a).abort = true := by
          unfold isMissing at ha
          unfold selStep
          have hl : lookup root a = .missing := by simpa using ha
          simp [hs, hl]
        rw [foldl_selStep_abort root rest _ this]; exact this
      · obtain ⟨b, hb, hbm⟩ := hm
        rcases List.mem_cons.mp hb with rfl | hb
        · exact absurd hbm ha
        · exact ih _ ⟨b, hb, hbm⟩

/-- **A nonexistent path aborts**: nothing is analysed, the status is non-zero (`abort`). -/
theorem missing_aborts (root : FS) (argv : List (List String))
    (hm : ∃ a ∈ argv, isMissing root a = true) :
    (select root argv).abort = true ∧ (select root argv).files = [] := by
  have h := foldl_selStep_missing root argv {} hm
  unfold select
  cases argv with
  | nil => obtain ⟨a, ha, _⟩ := hm; cases ha
  | cons a rest => simp only; rw [h]; simp

/-- **With no argument the current directory tree is used.** -/
theorem default_is_cwd (root : FS) : (select root []).files = globCH root [] ∧ (select root []).abort = false := by
  simp [select]

/-- **A named file with another suffix is rejected**: it contributes nothing. -/
theorem other_suffix_rejected (root : FS) (a : List String) (hf : lookup root a = .file)
    (hs : suffixOf (a.getLast?.getD "") ≠ ".c" ∧ suffixOf (a.getLast?.getD "") ≠ ".h") :
    contrib root a = [] := by
  unfold contrib
  simp [hf, hs.1, hs.2]

/-- `pathlib` suffix semantics on the look-alike names of the property. -/
example : suffixOf "a.c" = ".c" ∧ suffixOf "a.h" = ".h" ∧ suffixOf "a.cc" = ".cc" ∧ suffixOf "a.hh" = ".hh"
    ∧ suffixOf "a.C" = ".C" ∧ suffixOf "a.c.bak" = ".bak" ∧ suffixOf "a.b.c" = ".c" ∧ suffixOf ".c" = ""
    ∧ suffixOf "c" = "" ∧ suffixOf "a." = "" ∧ suffixOf "my file.c" = ".c" := by decide +kernel

/-- Non-vacuity: a tree with nesting, a directory named like a source, look-alikes, hidden entries. -/
def exTree : FS :=
  [⟨["a.c"], false⟩, ⟨["b.cc"], false⟩, ⟨["c.h"], false⟩, ⟨[".hidden.c"], false⟩, ⟨["d"], true⟩,
   ⟨["d", "x.c"], true⟩, ⟨["d", "x.c", "in.c"], false⟩, ⟨["d", ".git"], true⟩, ⟨["d", ".git", "g.c"], false⟩,
   ⟨["d", "y.C"], false⟩, ⟨["d", "e"], true⟩, ⟨["d", "z.h"], false⟩]
example : (select exTree [["a.c"], ["d"], ["b.cc"], ["d", "x.c"]]).files
    = ["a.c", "d/x.c/in.c", "d/z.h", "d/x.c/in.c"] := by decide +kernel
example : (select exTree [["a.c"], ["nope"], ["d"]]) = { files := [], msgs := ["Error: 'nope' no such file or directory"], abort := true } := by
  decide +kernel
example : (select exTree []).files = ["a.c", "c.h", "d/x.c/in.c", "d/z.h"] := by decide +kernel

end Norm.C15
