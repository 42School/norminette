/-
C12 — alternative spellings and line splices do not change the tokens (lexer half).
-/
import NormModel.Proofs.LexTotal
import NormModel.Proofs.RespellStream
import NormModel.Spec.Spellings
namespace Norm.C12
open Norm

/-- the code's tables are exactly the digraphs and trigraphs of the C standard (as sets) -/
theorem tables_are_the_standard :
    (∀ p ∈ Spec.digraphs, p ∈ Generated.digraphs) ∧ (∀ p ∈ Generated.digraphs, p ∈ Spec.digraphs) ∧
    (∀ p ∈ Spec.trigraphs, p ∈ Generated.trigraphs) ∧ (∀ p ∈ Generated.trigraphs, p ∈ Spec.trigraphs) := by
  decide +kernel

/-- **`peek` sees the standard character whatever the spelling**: for every entry (σ, c) of
the digraph and trigraph tables and every continuation, `peek` at σ ++ rest returns c and the
length of σ. -/
def triOk (p : String × String) : Bool :=
  match p.1.toList, p.2.toList with
  | ['?', '?', x], [c] =>
    (assoc Generated.trigraphs (String.ofList ['?', '?', x])).bind (·.toList.head?) == some c
  | _, _ => false

def diOk (p : String × String) : Bool :=
  match p.1.toList, p.2.toList with
  | [a, b], [c] =>
    a != '?' && (assoc Generated.digraphs (String.ofList [a, b])).bind (·.toList.head?) == some c
  | _, _ => false

theorem spellings_ok : ∀ p ∈ Generated.trigraphs ++ Generated.digraphs, (triOk p || diOk p) = true := by
  decide +kernel

theorem peek_respell : ∀ p ∈ Generated.trigraphs ++ Generated.digraphs, ∀ rest : List Char,
    ∃ c, p.2.toList = [c] ∧ peek1 (p.1.toList ++ rest) 0 = some (c, p.1.toList.length) := by
  intro p hp rest
  have hk := spellings_ok p hp
  simp only [Bool.or_eq_true] at hk
  rcases hk with hk | hk
  · unfold triOk at hk
    split at hk
    · rename_i x c h1 h2
      have h3 : (assoc Generated.trigraphs (String.ofList ['?', '?', x])).bind (·.toList.head?) = some c := by
        simpa using hk
      refine ⟨c, h2, ?_⟩
      rw [h1]
      unfold peek1 triAt
      simp only [List.drop_zero, List.cons_append, List.nil_append, h3, List.length_cons, List.length_nil]
    · cases hk
  · unfold diOk at hk
    split at hk
    · rename_i a b c h1 h2
      simp only [Bool.and_eq_true, bne_iff_ne, ne_eq, beq_iff_eq] at hk
      obtain ⟨ha, h3⟩ := hk
      refine ⟨c, h2, ?_⟩
      rw [h1]
      unfold peek1
      have ht : triAt ([a, b] ++ rest) = none := by
        unfold triAt
        split
        · rename_i heq; simp at heq; exact absurd heq.1 ha
        · rfl
      have hd : diAt ([a, b] ++ rest) = some c := by
        unfold diAt; simp only [List.cons_append, List.nil_append]; exact h3
      simp only [List.drop_zero, ht, hd, List.length_cons, List.length_nil]
    · cases hk

/-- A bracket is recognised from what `peek` returns: if `peek` yields a bracket character
(in whatever spelling, of raw size `sz`), `parse_brackets` produces that bracket's token and
consumes exactly the spelling. -/
theorem brackets_of_peek (s : LexSt) (c : Char) (sz : Nat) (ty : String)
    (hp : peek1 s.rest 0 = some (c, sz)) (hc : c ≠ '\\')
    (hty : assoc Generated.brackets (String.ofList [c]) = some ty) :
    ∃ s1 t, parseBrackets s = some (s1, t) ∧ t.type = ty ∧ t.value = none ∧
      t.line = s.line ∧ t.col = s.col ∧ s1.rest = s.rest.drop sz := by
  obtain ⟨p1, p2⟩ := popOne_plain hp hc
  unfold parseBrackets
  simp only [hp, hty]
  cases hpo : popOne false false s with
  | mk s1 r =>
    rw [hpo] at p1 p2
    simp only at p1 p2
    subst p1
    exact ⟨s1, _, rfl, rfl, rfl, rfl, rfl, p2⟩

/-- **Braces and brackets in every spelling**: `{ } [ ]` written as digraph or trigraph give
the same token kind as the plain character, and the lexer continues at the same place. -/
theorem bracket_spellings : ∀ p ∈ Generated.trigraphs ++ Generated.digraphs,
    ∀ ty, assoc Generated.brackets p.2 = some ty →
    ∀ (s : LexSt) (rest : List Char), s.rest = p.1.toList ++ rest →
      ∃ s1 t, parseBrackets s = some (s1, t) ∧ t.type = ty ∧ t.line = s.line ∧ t.col = s.col ∧ s1.rest = rest := by
  intro p hp ty hty s rest hr
  obtain ⟨c, hc, hpk⟩ := peek_respell p hp rest
  have hne : c ≠ '\\' := by
    intro h; subst h
    have : ∀ p ∈ Generated.trigraphs ++ Generated.digraphs, p.2.toList = ['\\'] → assoc Generated.brackets p.2 = none := by
      decide +kernel
    rw [this p hp hc] at hty; cases hty
  have hty' : assoc Generated.brackets (String.ofList [c]) = some ty := by
    rw [← hc, String.ofList_toList]; exact hty
  obtain ⟨s1, t, h1, h2, _, h4, h5, h6⟩ := brackets_of_peek s c p.1.toList.length ty (by rw [hr]; exact hpk) hne hty'
  refine ⟨s1, t, h1, h2, h4, h5, ?_⟩
  rw [h6, hr]; simp

def brOk (b : String × String) : Bool :=
  match b.1.toList with
  | [c] => c != '?' && c != '<' && c != '%' && c != ':' && c != '\\' &&
      assoc Generated.brackets (String.ofList [c]) == some b.2
  | _ => false

/-- the plain spelling, for comparison: same token kind, one raw character consumed -/
theorem bracket_plain : ∀ b ∈ Generated.brackets, ∀ (s : LexSt) (rest : List Char),
    s.rest = b.1.toList ++ rest →
      ∃ s1 t, parseBrackets s = some (s1, t) ∧ t.type = b.2 ∧ t.line = s.line ∧ t.col = s.col ∧ s1.rest = rest := by
  intro b hb s rest hr
  have key : ∀ b ∈ Generated.brackets, brOk b = true := by decide +kernel
  have hk := key b hb
  unfold brOk at hk
  split at hk
  case h_2 => cases hk
  rename_i c h1
  simp only [Bool.and_eq_true, bne_iff_ne, ne_eq, beq_iff_eq] at hk
  obtain ⟨⟨⟨⟨⟨h2, h3⟩, h4⟩, h5⟩, h6⟩, h7⟩ := hk
  have hpk : peek1 s.rest 0 = some (c, 1) := by rw [hr, h1]; exact peek1_raw h2 h3 h4 h5
  obtain ⟨s1, t, a, b', _, d, e, f⟩ := brackets_of_peek s c 1 b.2 hpk h6 h7
  refine ⟨s1, t, a, b', d, e, ?_⟩
  rw [f, hr, h1]; simp

/-- **A line splice between two tokens is skipped before any sub-lexer runs**, in both
spellings, any number of them: the state reached has the same unread text. -/
theorem splice_between_tokens (s : LexSt) (rest : List Char) (n : Nat) :
    (s.rest = '\\' :: '\n' :: rest → (skipSplices (n + 1) s).rest = (skipSplices n { advance s 2 with line := s.line + 1, col := 1 }).rest) ∧
    (s.rest = '?' :: '?' :: '/' :: '\n' :: rest →
      (skipSplices (n + 1) s).rest = (skipSplices n { advance s 4 with line := s.line + 1, col := 1 }).rest) := by
  constructor
  · intro h
    conv => lhs; unfold skipSplices
    simp [rawPeek, h]
  · intro h
    conv => lhs; unfold skipSplices
    simp [rawPeek, h]

/-! ### respelling as a relation on texts, and what it preserves -/

/-- **A (safe) respelling**: `b` is `a` with some of the characters `# \ ^ [ ] | { } ~` written as a digraph or a
trigraph.  A character that could itself start a digraph or trigraph (`? < % :`) is kept only where it is read as
itself in both texts (the side condition of the last constructor). -/
inductive Respelled : List Char → List Char → Prop
  | nil : Respelled [] []
  | keep (c : Char) {a b : List Char} : c ≠ '?' → c ≠ '<' → c ≠ '%' → c ≠ ':' → Respelled a b → Respelled (c :: a) (c :: b)
  | alt (p : String × String) (c : Char) {a b : List Char} : p ∈ Generated.trigraphs ++ Generated.digraphs →
      p.2.toList = [c] → Respelled a b → Respelled (c :: a) (p.1.toList ++ b)
  | keepStarter (c : Char) {a b : List Char} : peek1 (c :: a) 0 = some (c, 1) → peek1 (c :: b) 0 = some (c, 1) →
      Respelled a b → Respelled (c :: a) (c :: b)

theorem table_targets_mem : ∀ p ∈ Generated.trigraphs ++ Generated.digraphs, ∀ c ∈ p.2.toList, c ∈ altTargets := by
  decide +kernel

theorem table_targets (p : String × String) (hp : p ∈ Generated.trigraphs ++ Generated.digraphs) (c : Char)
    (hc : p.2.toList = [c]) : c ∈ altTargets := table_targets_mem p hp c (by rw [hc]; simp)

/-- a respelled text is read as the same characters -/
theorem respelled_reads_same {a b : List Char} (h : Respelled a b) : ReadEq a b := by
  induction h with
  | nil => exact ReadEq.nil
  | keep c h1 h2 h3 h4 _ ih =>
    exact ReadEq.step (peek1_raw h1 h2 h3 h4) (peek1_raw h1 h2 h3 h4) (by simpa using ih)
  | alt p c hp hc _ ih =>
    obtain ⟨c', hc', hpk⟩ := peek_respell p hp _
    rw [hc] at hc'
    simp only [List.cons.injEq, and_true] at hc'
    subst hc'
    obtain ⟨g1, g2, g3, g4⟩ := alt_plain c (table_targets p hp c hc)
    exact ReadEq.step (peek1_raw g1 g2 g3 g4) hpk (by simpa using ih)
  | keepStarter c h1 h2 _ ih => exact ReadEq.step h1 h2 (by simpa using ih)

/-- **Longest match is the same in every spelling** (`parse_operator`): two texts read as the same characters give
the same operator (same kind, taken by the same longest match), or both none; the texts left read the same again. -/
theorem operator_longest_match (s t : LexSt) (h : ReadEq s.rest t.rest) :
    OpSim (parseOperator s) (parseOperator t) := parseOperator_readEq s t h

/-- **Punctuators through the whole sub-lexer chain**: when the next character read starts a punctuator
other than `/` and `.` (one of `# ^ [ ] | { } ~ ? < % : + - * , > & ! = ; ( )`, in any spelling), both texts give a token of the same kind and value and continue in texts that read the same. -/
theorem punctuator_token (u : Uni) (s t : LexSt) (h : ReadEq s.rest t.rest) (c : Char) (k : Nat)
    (hp : peek1 s.rest 0 = some (c, k)) (hc : c ∈ altPunct) :
    ChainSim (trySubLexers u s) (trySubLexers u t) := token_readEq u s t h c k hp hc

/-- **The whole token stream is the same in every spelling** (C12, lexer half, for every text): a text and a
respelling of it are lexed into items that correspond one to one — tokens of the same kind and the same value (the text
of a block comment excepted: its tabs are expanded by column, which a respelling earlier on the line moves), the same
bad lexemes; a stray backslash (no punctuator: a lexical error, in either spelling) ends the claim. -/
theorem lex_respell (u : Uni) (a b : List Char) (ra rb : LexResult) (h : Respelled a b)
    (ha : lex u a = .ok ra) (hb : lex u b = .ok rb) : ItemsSim ra.items rb.items :=
  lex_readEq u a b ra rb ha hb (respelled_reads_same h)

/-- token by token -/
inductive ToksSim : List Token → List Token → Prop
  | nil : ToksSim [] []
  | cons {x y : Token} {xs ys : List Token} : x.type = y.type → (x.type ≠ "MULT_COMMENT" → x.value = y.value) →
      ToksSim xs ys → ToksSim (x :: xs) (y :: ys)

theorem toks_of_items {ia ib : List Item} (h : ItemsSim ia ib) (hno : ∀ i ∈ ia, (Item.tok? i).isSome = true) :
    ToksSim (ia.filterMap Item.tok?) (ib.filterMap Item.tok?) := by
  induction h with
  | nil => exact ToksSim.nil
  | tok h1 h2 _ ih =>
    simp only [List.filterMap_cons, Item.tok?]
    exact ToksSim.cons h1 h2 (ih (fun i hi => hno i (List.mem_cons_of_mem _ hi)))
  | bad _ _ _ => have := hno _ (List.mem_cons_self); simp [Item.tok?] at this
  | stray _ _ => have := hno _ (List.mem_cons_self); simp [Item.tok?] at this

/-- **C12 for a text without bad lexemes**: the token sequences of the text and of any respelling of it have the same
length, the same kinds and the same values (block comment texts excepted). -/
theorem tokens_respell (u : Uni) (a b : List Char) (ra rb : LexResult) (h : Respelled a b)
    (ha : lex u a = .ok ra) (hb : lex u b = .ok rb) (hno : ∀ i ∈ ra.items, (Item.tok? i).isSome = true) :
    ToksSim ra.tokens rb.tokens := by
  have hs := lex_respell u a b ra rb h ha hb
  have ea : ra.tokens = ra.items.filterMap Item.tok? := by
    unfold lex at ha
    split at ha
    · cases ha
    · simp only [Except.ok.injEq] at ha; rw [← ha]
  have eb : rb.tokens = rb.items.filterMap Item.tok? := by
    unfold lex at hb
    split at hb
    · cases hb
    · simp only [Except.ok.injEq] at hb; rw [← hb]
  rw [ea, eb]
  exact toks_of_items hs hno

/-- Non-vacuity: `||=`-like runs in mixed spellings are respellings, hence read the same; and the two lexings agree. -/
example : Respelled "|| x[1]".toList "??!??! x<:1:>".toList :=
  .alt ("??!", "|") '|' (by decide) rfl (.alt ("??!", "|") '|' (by decide) rfl (.keep ' ' (by decide) (by decide) (by decide) (by decide)
    (.keep 'x' (by decide) (by decide) (by decide) (by decide) (.alt ("<:", "[") '[' (by decide) rfl
      (.keep '1' (by decide) (by decide) (by decide) (by decide) (.alt (":>", "]") ']' (by decide) rfl .nil))))))

/-- Non-vacuity: kinds and values of a statement in three spellings, with splices between tokens. -/
example :
    let kv := fun (src : String) => (lex {} src.toList).toOption.map (fun r => r.tokens.map (fun t => (t.type, t.value)))
    kv "a[1] = {b | c};" = kv "a<:1:> = <%b ??! c%>;" ∧ kv "a[1] = {b | c};" = kv "a??(1??) = ??<b ??! c??>;" ∧
    kv "a[1] = {b | c};" = kv "a\\\n[1]??/\n = {b\\\n | c};" := by
  dsimp only
  repeat rw [String.toList_ofList]
  decide +kernel

end Norm.C12
