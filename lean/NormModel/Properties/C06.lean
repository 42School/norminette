/-
C06 — the verdict is a pure function of the file.
Proved: (1) the registry does not depend on the order of the rules directory listing — for
EVERY permutation of the listing the primaries and every dependency list come out in the same
order (stable sort + pairwise distinct keys, re-checked on the regenerated tables);
(2) frame facts read from the source: no class-level mutable attribute is mutated through
instances, no function mutates a module-level mutable object, no `global` statement.
Purity *within* the model is by construction (every model function is a function); what ties
that to the code is (2) plus the history/permutation correspondence run by the harness.
-/
import NormModel.Model.Registry
import NormModel.Proofs.Sort
import NormModel.Generated.Rules
import NormModel.Generated.Facts
import NormModel.Proofs.TableCheck
namespace Norm.C06
open Norm

theorem sortPrimaries_perm_invariant (l l' : List (String × Nat)) (hp : l.Perm l')
    (hnd : (l.map Prod.snd).Nodup) : sortPrimaries l = sortPrimaries l' :=
  sortBy_eq_of_perm _ Prod.snd (fun a b => by simp only [decide_eq_true_eq]; omega)
    (fun a b c => by simp only [decide_eq_true_eq]; omega)
    (fun a b => by simp only [decide_eq_true_eq]; omega) hp hnd

/-- name and priority of every primary, in the order computed by the real code -/
def primaryKeys : List (String × Nat) := Generated.primaries.map (fun p => (p.1, p.2.1))

/-- table obligation: the priorities are pairwise distinct -/
theorem priorities_nodup : (primaryKeys.map Prod.snd).Nodup := by decide +kernel

/-- table obligation: rule names are pairwise distinct -/
theorem rule_names_nodup :
    (Generated.primaries.map (·.1) ++ Generated.checks.map (·.1)).Nodup :=
  nodup_of_codes strCode _ (by decide +kernel)

/-- **The primaries' order does not depend on the directory listing**: whatever order
`os.listdir` (hence the imports, hence `Primary.__subclasses__()`) produces, sorting gives
exactly the order the real code computed on this tree. -/
theorem registry_perm (listing : List (String × Nat)) (hp : listing.Perm primaryKeys) :
    sortPrimaries listing = primaryKeys := by
  have h1 := sortPrimaries_perm_invariant listing primaryKeys hp
    ((hp.map Prod.snd).nodup_iff.mpr priorities_nodup)
  rw [h1]
  -- table obligation: the generated order is already sorted (it IS the real code's result)
  exact sortBy_eq_self _ (by decide +kernel)

theorem sortByNameDesc_perm_invariant (l l' : List String) (hp : l.Perm l') (hnd : l.Nodup) :
    sortByNameDesc l = sortByNameDesc l' :=
  sortBy_eq_of_perm _ id (fun a b => by simpa [or_comm] using String.le_total a b)
    (fun a b c h1 h2 => by simp only [decide_eq_true_eq] at *; exact String.le_trans h2 h1)
    (fun a b h1 h2 => by simp only [decide_eq_true_eq] at *; exact String.le_antisymm h2 h1) hp (by simpa using hnd)

/-- **Every dependency list is independent of the listing order**: for each key of
`Registry().dependencies`, any permutation of its members sorts to the list the real code
computed. -/
theorem dependencies_perm :
    ∀ kv ∈ Generated.dependencies, ∀ l : List String, l.Perm kv.2 → sortByNameDesc l = kv.2 := by
  intro kv hkv l hp
  -- table obligation: every list is strictly descending, hence duplicate-free and already sorted
  have hs : kv.2.Pairwise (fun a b => b < a) :=
    (by decide +kernel : ∀ kv ∈ Generated.dependencies, kv.2.Pairwise (fun a b => b < a)) kv hkv
  rw [sortByNameDesc_perm_invariant l kv.2 hp (hp.nodup_iff.mpr (hs.imp (S := (· ≠ ·)) fun h e => String.lt_irrefl _ (e ▸ h)))]
  exact sortBy_eq_self _ (hs.imp fun h => decide_eq_true (String.lt_asymm h))

/-- **Frame facts** (regenerated from the AST of the source on every run): no state is
shared between files through class attributes, module-level objects or globals. -/
theorem no_shared_state :
    Generated.sharedMutableClassAttrs = [] ∧ Generated.moduleLevelWrites = [] ∧ Generated.globalDecls = [] ∧
    Generated.moduleLevelIterators = [] ∧ Generated.registryInstanceWrites = [] := by
  decide

/-- No check runs on start or on end (the engine model has no such phases). -/
theorem no_start_end_checks : ∀ c ∈ Generated.checks, c.2.2.1 = false ∧ c.2.2.2.2 = false := by decide +kernel

/-- Non-vacuity: a reversed listing of the primaries sorts to the same order. -/
example : sortPrimaries primaryKeys.reverse = primaryKeys := registry_perm _ (List.reverse_perm _)

end Norm.C06
