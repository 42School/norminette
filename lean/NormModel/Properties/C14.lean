/-
C14 — include-guard validation follows the file name.
`guardCheck` is the decision logic of CheckPreprocessorProtection.run; the theorems hold for
every header base name and every sym symbol (unbounded strings).
-/
import NormModel.Model.Guard
namespace Norm.C14
open Norm

/-- the alphabet of header base names the property quantifies over -/
def nameAlphabet : List Char := "abcdefghijklmnopqrstuvwxyz0123456789_.".toList

theorem upper_dot : ∀ c ∈ nameAlphabet, (c.toUpper == '.') = (c == '.') := by
  unfold nameAlphabet; rw [String.toList_ofList]; decide +kernel

/-- the guard symbol is the file name upper-cased with dots replaced by underscores — for
every base name over `[a-z0-9_.]`, of any length -/
theorem guardOf_spec (base : List Char) (hb : ∀ c ∈ base, c ∈ nameAlphabet) :
    guardOf base = base.map (fun c => if c == '.' then '_' else c.toUpper) := by
  unfold guardOf
  rw [List.map_map]
  apply List.map_congr_left
  intro c hc
  simp only [Function.comp]
  rw [upper_dot c (hb c hc)]

theorem guardOf_length (base : List Char) : (guardOf base).length = base.length := by
  unfold guardOf; simp

/-- **`.c` files are never subject to these checks**, whatever they contain. -/
theorem c_file_never (guard : List Char) (i : GuardIn) (h : i.isHeader = false) :
    (guardCheck guard i).codes = [] ∧ (guardCheck guard i).prot = i.prot := by
  unfold guardCheck; simp [h]

/-- **The correct guard is accepted**: `#ifndef G` with G the file's symbol, at the outermost
level, nothing but comments/empty lines before it, emits nothing. -/
theorem accept_ifndef (guard : List Char) (i : GuardIn) (hd : i.dir = .ifndef guard) (hi : i.indent = 1)
    (hp : i.prot = false) (hb : i.codeBefore = false) : (guardCheck guard i).codes = [] := by
  unfold guardCheck; simp [hd, hi, hp, hb]

/-- … and the closing `#endif` with the symbol defined and nothing after it emits nothing and
marks the header prot. -/
theorem accept_endif (guard : List Char) (i : GuardIn) (hh : i.isHeader = true) (hd : i.dir = .endif false) (hi : i.indent = 0)
    (hp : i.prot = false) (hdef : i.guardDefined = true) :
    guardCheck guard i = ⟨[], true⟩ := by
  unfold guardCheck; simp [hh, hd, hi, hp, hdef]

/-- G1/G2: **a symbol that differs from the file's** is reported — `HEADER_PROT_UPPER` when it
is the right symbol in another case, `HEADER_PROT_NAME` otherwise. -/
theorem wrong_symbol (guard sym : List Char) (i : GuardIn) (hh : i.isHeader = true) (hd : i.dir = .ifndef sym)
    (hi : i.indent = 1) (hp : i.prot = false) (hne : sym ≠ guard) :
    (if upperOf sym = guard then "HEADER_PROT_UPPER" else "HEADER_PROT_NAME") ∈ (guardCheck guard i).codes := by
  unfold guardCheck
  have : (sym != guard) = true := by simp [hne]
  simp only [hh, hd, hi, hp, this]
  by_cases hu : upperOf sym = guard <;> simp [hu]

/-- G3: **no `#define` of the symbol** → `HEADER_PROT_NODEF` at the closing `#endif`. -/
theorem missing_define (guard : List Char) (i : GuardIn) (hh : i.isHeader = true) (after : Bool) (hd : i.dir = .endif after)
    (hi : i.indent = 0) (hp : i.prot = false) (hdef : i.guardDefined = false) :
    "HEADER_PROT_NODEF" ∈ (guardCheck guard i).codes := by
  unfold guardCheck; simp [hh, hd, hi, hp, hdef]

/-- G4: **a second outermost `#ifndef`** after the header was closed → `HEADER_PROT_MULT`. -/
theorem doubled (guard sym : List Char) (i : GuardIn) (hh : i.isHeader = true) (hd : i.dir = .ifndef sym)
    (hi : i.indent = 1) (hp : i.prot = true) : "HEADER_PROT_MULT" ∈ (guardCheck guard i).codes := by
  unfold guardCheck; simp [hh, hd, hi, hp]

/-- G5: **declarations before the guard** → `HEADER_PROT_ALL`. -/
theorem code_before (guard sym : List Char) (i : GuardIn) (hh : i.isHeader = true) (hd : i.dir = .ifndef sym)
    (hi : i.indent = 1) (hp : i.prot = false) (hb : i.codeBefore = true) :
    "HEADER_PROT_ALL" ∈ (guardCheck guard i).codes := by
  unfold guardCheck; simp [hh, hd, hi, hp, hb]

/-- G6: **something after the final `#endif`** → `HEADER_PROT_ALL_AF`. -/
theorem code_after (guard : List Char) (i : GuardIn) (hh : i.isHeader = true) (hd : i.dir = .endif true)
    (hi : i.indent = 0) (hp : i.prot = false) : "HEADER_PROT_ALL_AF" ∈ (guardCheck guard i).codes := by
  unfold guardCheck; simp [hh, hd, hi, hp]

/-- Non-vacuity. -/
example : guardOf "ft.list.h".toList = "FT_LIST_H".toList ∧ guardOf "libft.h".toList = "LIBFT_H".toList ∧
    guardOf "a_b2.h".toList = "A_B2_H".toList := by decide +kernel

end Norm.C14
