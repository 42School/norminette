/-
C07 — every statement is examined exactly once; nothing is skipped silently.
`engineRun` is the loop of `Registry.run`; the theorems hold for **every** rule table
(`step` is universally quantified: any primaries, any priorities, any scopes, any jumps).
-/
import NormModel.Proofs.Engine
namespace Norm.C07
open Norm

variable {σ : Type}

/-- **Partition.** On every run that reaches a verdict, each token index below `n` is
accounted for exactly once — by exactly one statement segment or by exactly one entry of
the unrecognised list — and nothing beyond `n` is: consecutive, non-overlapping, covering. -/
theorem tiling (step : σ → Nat → StepRes σ) (debug : Nat) (s s' : σ) (n : Nat)
    (t : List Segment) (u : List Nat) (h : engineRun step debug s n = .ok s' t u) :
    ∀ i, cover t u i = if i < n then 1 else 0 :=
  (engineRun_post h).1.cov

/-- **Each statement consumes at least one token** and lies inside the file. -/
theorem nonempty (step : σ → Nat → StepRes σ) (debug : Nat) (s s' : σ) (n : Nat)
    (t : List Segment) (u : List Nat) (h : engineRun step debug s n = .ok s' t u) :
    ∀ g ∈ t, 1 ≤ g.len ∧ g.start + g.len ≤ n :=
  (engineRun_post h).1.segs

/-- **Nothing is dropped silently.** With `debug = 0`, a run that ends with a verdict
(`ok`) has an empty unrecognised list; contrapositive: if any token is recognised by no
rule the run ends `fatal` (or a rule crashed) — it is never reported as analysed. -/
theorem no_silent_drop (step : σ → Nat → StepRes σ) (s s' : σ) (n : Nat)
    (t : List Segment) (u : List Nat) (h : engineRun step 0 s n = .ok s' t u) : u = [] :=
  (engineRun_post h).2 rfl

/-- Hence with `debug = 0` the statements alone tile the file. -/
theorem statements_tile (step : σ → Nat → StepRes σ) (s s' : σ) (n : Nat)
    (t : List Segment) (u : List Nat) (h : engineRun step 0 s n = .ok s' t u) :
    ∀ i, (t.filter (fun g => decide (g.start ≤ i ∧ i < g.start + g.len))).length = if i < n then 1 else 0 := by
  intro i
  have := (engineRun_post h).1.cov i
  rw [(engineRun_post h).2 rfl] at this
  simpa [cover] using this

/-- **The loop terminates** for every rule table whose rule calls return: the run never
ends in `hang` (the fuel `n + 1` is never exhausted, every iteration pops ≥ 1 token). -/
theorem terminates (step : σ → Nat → StepRes σ) (debug : Nat) (s : σ) (n : Nat)
    (hstep : ∀ s p, ∀ (_ : step s p = .hang), False) : engineRun step debug s n ≠ .hang := by
  unfold engineRun
  exact engineLoop_no_hang step debug hstep _ _ _ _ _ _ _ (by omega)

/-- The loop raises nothing by itself: a crash of the run is the crash of a rule call. -/
theorem crash_is_rule_crash (step : σ → Nat → StepRes σ) (debug : Nat) (s : σ) (n : Nat) (w : String)
    (h : engineRun step debug s n = .crash w) : ∃ s p, step s p = .crash w := by
  unfold engineRun at h
  exact engineLoop_crash step debug _ _ _ _ _ _ _ _ h

/-- Non-vacuity: a table that recognises two-token statements except at index 4. -/
def exStep : Nat → Nat → StepRes Nat := fun s p =>
  if p = 4 then .noMatch s else .matched "R" 2 (s + 1)
example : (match engineRun exStep 1 0 7 with | .ok _ t u => (t.map (fun g => (g.start, g.len)), u) | _ => ([], []))
    = ([(0, 2), (2, 2), (5, 2)], [4]) := by decide
example : (match engineRun exStep 0 0 7 with | .fatal _ _ u => some u | _ => none) = some [4] := by decide

end Norm.C07
