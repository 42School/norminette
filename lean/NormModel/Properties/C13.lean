/-
C13 — the 42 header is recognised exactly.
The pattern is `Generated.headerRegex`, translated on every run from the pattern that
`CheckHeader.check_header` compiles; `re.search` itself is a parameter `srch` constrained by
assumption A2 (it finds a match whenever the declarative semantics `Searches` has one).
-/
import NormModel.Model.Checks
import NormModel.Model.Header
import NormModel.Proofs.Regex
import NormModel.Proofs.Header
import NormModel.Generated.HeaderRegex
namespace Norm.C13
open Norm

/-! ### the eleven line patterns -/

def stars (n : Nat) : List Char := List.replicate n '*'
def frameText : List Char := "/* ".toList ++ stars 74 ++ " */".toList

/-- `\/\* \*{74} \*\/.` -/
def pFrame : List Atom := lits "/* ".toList ++ [⟨.lit '*', 74, some 74⟩] ++ lits " */".toList ++ [any1]
/-- `\/\*.*\*\/.` -/
def pAny : List Atom := lits "/*".toList ++ [anyStar] ++ lits "*/".toList ++ [any1]
/-- `\/\*.{3}([^ ]*).*\*\/.` -/
def pFile : List Atom := lits "/*".toList ++ [⟨.any, 3, some 3⟩, notSpStar, anyStar] ++ lits "*/".toList ++ [any1]
/-- `\/\*   By: ([^ ]*).*\*\/.` -/
def pBy : List Atom := lits "/*   By: ".toList ++ [notSpStar, anyStar] ++ lits "*/".toList ++ [any1]
/-- `\/\*   Created: ([^ ]* [^ ]*) by ([^ ]*).*\*\/.` -/
def pStamp (kw : String) : List Atom :=
  lits ("/*   " ++ kw ++ ": ").toList ++ [notSpStar] ++ lits " ".toList ++ [notSpStar] ++ lits " by ".toList ++
    [notSpStar, anyStar] ++ lits "*/".toList ++ [any1]

/-- **Obligation on the regenerated pattern**: it is exactly frame, filler, filler, file
name line, filler, By, filler, Created, Updated, filler, frame. (A pattern that loses or
reorders a line breaks this.) -/
theorem pattern_shape : Generated.headerRegex =
    pFrame ++ (pAny ++ (pAny ++ (pFile ++ (pAny ++ (pBy ++ (pAny ++ (pStamp "Created" ++ (pStamp "Updated" ++
      (pAny ++ pFrame))))))))) := by
  decide +kernel

theorem pattern_flags : Generated.headerPatternFlags = 16 := by decide   -- re.DOTALL

/-! ### well-formed headers -/

/-- The eleven lines of a standard header, each without its newline. Only what the Norm's
template guarantees is required; the ASCII art, padding, names, e-mail and digits are free. -/
structure Header where
  b2 : List Char
  b3 : List Char
  f3 : List Char            -- the three characters before the file name
  fname : List Char         -- rest of the file-name line
  b5 : List Char
  by_ : List Char           -- what follows `By: `
  b7 : List Char
  cdate : List Char
  ctime : List Char
  crest : List Char         -- `<login> …` after ` by `
  udate : List Char
  utime : List Char
  urest : List Char
  b10 : List Char

def Header.WF (h : Header) : Prop :=
  h.f3.length = 3 ∧ (∀ c ∈ h.cdate, c ≠ ' ') ∧ (∀ c ∈ h.ctime, c ≠ ' ') ∧
  (∀ c ∈ h.udate, c ≠ ' ') ∧ (∀ c ∈ h.utime, c ≠ ' ')

def cm (body : List Char) : List Char := "/*".toList ++ body ++ "*/".toList

def Header.lines (h : Header) : List (List Char) :=
  [frameText, cm h.b2, cm h.b3, cm (h.f3 ++ h.fname), cm h.b5, cm ("   By: ".toList ++ h.by_), cm h.b7,
   cm ("   Created: ".toList ++ h.cdate ++ " ".toList ++ h.ctime ++ " by ".toList ++ h.crest),
   cm ("   Updated: ".toList ++ h.udate ++ " ".toList ++ h.utime ++ " by ".toList ++ h.urest),
   cm h.b10, frameText]

/-- `context.header` after the eleven comment statements: each token text followed by "\n" -/
def Header.text (h : Header) : List Char := (h.lines.map (· ++ ['\n'])).flatten

theorem m_frame : MatchesSeq pFrame (frameText ++ ['\n']) := by
  unfold pFrame frameText
  rw [List.append_assoc, List.append_assoc, List.append_assoc, List.append_assoc]
  apply ms_lits
  apply ms_rep _ (stars 74) 74 rfl rfl (by simp [stars])
  · intro c hc; simp [stars] at hc; simp [hc, CSet.mem]
  apply ms_lits
  exact ms_any1 '\n' MatchesSeq.nil

theorem m_any (body : List Char) : MatchesSeq pAny (cm body ++ ['\n']) := by
  unfold pAny cm
  simp only [List.append_assoc]
  apply ms_lits
  apply ms_anyStar body
  apply ms_lits
  exact ms_any1 '\n' MatchesSeq.nil

theorem m_file (f3 rest : List Char) (h3 : f3.length = 3) : MatchesSeq pFile (cm (f3 ++ rest) ++ ['\n']) := by
  unfold pFile cm
  simp only [List.append_assoc, List.cons_append, List.nil_append]
  apply ms_lits
  apply ms_rep _ f3 3 rfl rfl h3 (by intro c _; simp [CSet.mem])
  have := ms_notSpStar [] (by intro c hc; cases hc) (rest := anyStar :: (lits "*/".toList ++ [any1]))
    (tail := rest ++ ("*/".toList ++ ['\n']))
    (ms_anyStar rest (ms_lits "*/".toList (ms_any1 '\n' MatchesSeq.nil)))
  simpa using this

theorem m_by (rest : List Char) : MatchesSeq pBy (cm ("   By: ".toList ++ rest) ++ ['\n']) := by
  unfold pBy cm
  have h0 : "/*".toList ++ ("   By: ".toList ++ rest) ++ "*/".toList ++ ['\n']
      = "/*   By: ".toList ++ ([] ++ (rest ++ ("*/".toList ++ ['\n']))) := by simp
  rw [h0, List.append_assoc, List.append_assoc]
  apply ms_lits
  apply ms_notSpStar [] (by intro c hc; cases hc)
  apply ms_anyStar rest
  apply ms_lits
  exact ms_any1 '\n' MatchesSeq.nil

theorem m_stamp (kw : String) (d t rest : List Char) (hd : ∀ c ∈ d, c ≠ ' ') (ht : ∀ c ∈ t, c ≠ ' ') :
    MatchesSeq (pStamp kw)
      (cm (("   " ++ kw ++ ": ").toList ++ d ++ " ".toList ++ t ++ " by ".toList ++ rest) ++ ['\n']) := by
  unfold pStamp cm
  have h0 : "/*".toList ++ (("   " ++ kw ++ ": ").toList ++ d ++ " ".toList ++ t ++ " by ".toList ++ rest) ++ "*/".toList ++ ['\n']
      = ("/*   " ++ kw ++ ": ").toList ++ (d ++ (" ".toList ++ (t ++ (" by ".toList ++ ([] ++ (rest ++ ("*/".toList ++ ['\n']))))))) := by
    simp [String.toList_append]
  rw [h0]
  simp only [List.append_assoc]
  apply ms_lits
  apply ms_notSpStar d hd
  apply ms_lits
  apply ms_notSpStar t ht
  apply ms_lits
  apply ms_notSpStar [] (by intro c hc; cases hc)
  apply ms_anyStar rest
  apply ms_lits
  exact ms_any1 '\n' MatchesSeq.nil

/-- **Every well-formed header matches the pattern**, whatever the file name, author,
e-mail, dates and art are (unbounded field contents). -/
theorem header_matches (h : Header) (hw : h.WF) : MatchesSeq Generated.headerRegex h.text := by
  obtain ⟨h3, hcd, hct, hud, hut⟩ := hw
  rw [pattern_shape]
  unfold Header.text Header.lines
  simp only [List.map_cons, List.map_nil, List.flatten_cons, List.flatten_nil, List.append_nil]
  have s8 := m_stamp "Created" h.cdate h.ctime h.crest hcd hct
  have s9 := m_stamp "Updated" h.udate h.utime h.urest hud hut
  have e8 : ("   " ++ "Created" ++ ": ").toList = "   Created: ".toList := by decide
  have e9 : ("   " ++ "Updated" ++ ": ").toList = "   Updated: ".toList := by decide
  rw [e8] at s8; rw [e9] at s9
  exact ms_append m_frame (ms_append (m_any _) (ms_append (m_any _) (ms_append (m_file _ _ h3)
    (ms_append (m_any _) (ms_append (m_by _) (ms_append (m_any _) (ms_append s8 (ms_append s9
    (ms_append (m_any _) m_frame)))))))))

/-! ### the state machine -/

/-- the eleven header comments as statements -/
def Header.events (h : Header) : List HEvent := h.lines.map (fun l => ⟨true, some l⟩)

/-- **A file beginning with a well-formed header never gets INVALID_HEADER**: after the
eleven header comments, any further own-line block comments, then any statements at all — for
every search function that finds existing matches (A2). -/
theorem accept (srch : List Char → Bool) (hA2 : ∀ s, Searches Generated.headerRegex s → srch s = true)
    (h : Header) (hw : h.WF) (more : List (List Char)) (body : List HEvent)
    (hbody : ∀ e, body.head? = some e → e.isComment = false) :
    (headerRun srch (h.events ++ more.map (fun l => ⟨true, some l⟩) ++ body)).errors = 0 := by
  -- state after the comment statements: started, not parsed, text = header text ++ more
  have comments : ∀ (ls : List (List Char)) (st : HState), st.parsed = false →
      (ls.map (fun l => (⟨true, some l⟩ : HEvent))).foldl (headerStep srch) st =
        { st with text := st.text ++ (ls.map (· ++ ['\n'])).flatten, started := st.started || !ls.isEmpty } := by
    intro ls
    induction ls with
    | nil => intro st _; simp
    | cons l ls ih =>
      intro st hp
      simp only [List.map_cons, List.foldl_cons]
      have : headerStep srch st ⟨true, some l⟩ = { st with text := st.text ++ l ++ ['\n'], started := true } := by
        unfold headerStep; simp [hp]
      rw [this, ih _ (by simpa using hp)]
      simp [List.append_assoc]
  unfold headerRun
  rw [List.foldl_append, List.foldl_append]
  unfold Header.events
  rw [comments h.lines {} rfl, comments more _ rfl]
  simp only [List.nil_append]
  -- the body: nothing moves after its first (non-comment) statement
  cases body with
  | nil => simp
  | cons e es =>
    have he := hbody e rfl
    simp only [List.foldl_cons]
    have hs : Searches Generated.headerRegex (h.text ++ (more.map (· ++ ['\n'])).flatten) := by
      have := searches_mono [] ((more.map (· ++ ['\n'])).flatten) (searches_of_matches (header_matches h hw))
      simpa using this
    have hsr := hA2 _ hs
    have hl : h.lines.isEmpty = false := rfl
    have step1 : headerStep srch
        { started := (false || !h.lines.isEmpty) || !more.isEmpty, parsed := false,
          text := (h.lines.map (· ++ ['\n'])).flatten ++ (more.map (· ++ ['\n'])).flatten, errors := 0 } e
        = { started := true, parsed := true,
            text := (h.lines.map (· ++ ['\n'])).flatten ++ (more.map (· ++ ['\n'])).flatten, errors := 0 } := by
      unfold headerStep
      simp only [he, Bool.false_eq_true, ↓reduceIte, hl, Bool.not_false, Bool.false_or, Bool.true_or]
      have : srch ((h.lines.map (· ++ ['\n'])).flatten ++ (more.map (· ++ ['\n'])).flatten) = true := hsr
      simp [this]
    simp only at step1 ⊢
    rw [step1, headerFold_parsed srch es _ rfl]

/-- **INVALID_HEADER is emitted at most once per file**, for every sequence of statements and
every search function. -/
theorem at_most_once (srch : List Char → Bool) (es : List HEvent) : (headerRun srch es).errors ≤ 1 := by
  have inv : ∀ (es : List HEvent) (st : HState), (st.errors = 0 ∨ (st.errors = 1 ∧ st.parsed = true)) →
      (es.foldl (headerStep srch) st).errors ≤ 1 := by
    intro es
    induction es with
    | nil => intro st h; rcases h with h | h <;> simp [h]
    | cons e es ih =>
      intro st h
      rw [List.foldl_cons]
      rcases h with h | ⟨h1, h2⟩
      · exact ih _ ((headerStep_errors srch st e).imp (fun q => by omega) fun ⟨p, q⟩ => ⟨by omega, p⟩)
      · rw [headerStep_parsed srch st e h2]; exact ih _ (Or.inr ⟨h1, h2⟩)
  exact inv es {} (Or.inl rfl)

/-- **A file that does not begin with a header comment gets it exactly once**: if the first
statement is not a comment starting with a block comment (M1 absent, M2 code first, M3 empty
line first, M4 `//` comments, M24 indented), one INVALID_HEADER is emitted at that statement. -/
theorem reject_no_header (srch : List Char → Bool) (e : HEvent) (es : List HEvent)
    (h : e.isComment = false ∨ e.multAt0 = none) : (headerRun srch (e :: es)).errors = 1 := by
  unfold headerRun
  simp only [List.foldl_cons]
  have : (headerStep srch {} e).parsed = true ∧ (headerStep srch {} e).errors = 1 := by
    unfold headerStep
    rcases h with h | h
    · simp [h]
    · cases hc : e.isComment <;> simp [hc, h]
  rw [headerFold_parsed srch es _ this.1]; exact this.2


/-! ### File level, for every rule table

`CheckHeader` is in the `_rule` list: it runs after every matched primary. What it reads of a
statement is whether the primary was `IsComment` and the statement's first token, so its
behaviour over a whole file is the state machine run over the statements of the engine's trace
(`headerRunFile`), whatever the rules are. -/

/-- **At most one INVALID_HEADER per file**, for every token list, every trace (every rule
table) and every search function. -/
theorem at_most_once_file (srch : List Char → Bool) (toks : List Token) (trace : List Segment) :
    (headerRunFile srch toks trace).errors ≤ 1 := at_most_once srch _

/-- **Exactly one when the file does not begin with a header comment**: the first statement was
not matched by `IsComment`, or its first token is not a block comment (code, an empty line, a
`//` comment, an indented comment). -/
theorem reject_file (srch : List Char → Bool) (toks : List Token) (g : Segment) (rest : List Segment)
    (h : g.rule ≠ "IsComment" ∨ ∀ t, toks[g.start]? = some t → t.type ≠ "MULT_COMMENT") :
    (headerRunFile srch toks (g :: rest)).errors = 1 := by
  unfold headerRunFile
  rw [List.map_cons]
  apply reject_no_header
  unfold headerEventOf
  rcases h with h | h
  · left; simp [h]
  · right
    cases ht : toks[g.start]? with
    | none => rfl
    | some t =>
      have := h t ht
      simp [this]

/-- **None when the file begins with a well-formed header**: the first eleven statements are
`IsComment` statements whose first tokens are the header's lines, possibly followed by more
own-line block comments, and the next statement (if any) is not a comment. -/
theorem accept_file (srch : List Char → Bool) (hA2 : ∀ s, Searches Generated.headerRegex s → srch s = true)
    (h : Header) (hw : h.WF) (toks : List Token) (hsegs rest : List Segment) (more : List (List Char))
    (hev : hsegs.map (headerEventOf toks) = h.events ++ more.map (fun l => ⟨true, some l⟩))
    (hrest : ∀ g, rest.head? = some g → g.rule ≠ "IsComment") :
    (headerRunFile srch toks (hsegs ++ rest)).errors = 0 := by
  unfold headerRunFile
  rw [List.map_append, hev]
  apply accept srch hA2 h hw more
  intro e he
  cases rest with
  | nil => simp at he
  | cons g gs =>
    simp only [List.map_cons, List.head?_cons, Option.some.injEq] at he
    subst he
    have := hrest g rfl
    simp [headerEventOf, this]

/-- the diagnostics are as many as the state machine counts, when every statement starts at a
token of the file -/
theorem headerDiags_length (srch : List Char → Bool) (toks : List Token) (trace : List Segment) (st : HState)
    (hin : ∀ g ∈ trace, g.start < toks.length) :
    (headerDiagsAux srch toks trace st).length + st.errors =
      ((trace.map (headerEventOf toks)).foldl (headerStep srch) st).errors := by
  induction trace generalizing st with
  | nil => simp [headerDiagsAux]
  | cons g gs ih =>
    have hg := hin g (by simp)
    have hrest := ih (headerStep srch st (headerEventOf toks g)) (fun g' hg' => hin g' (List.mem_cons_of_mem _ hg'))
    simp only [headerDiagsAux, List.map_cons, List.foldl_cons, List.length_append]
    rw [← hrest]
    have hmono := headerStep_errors srch st (headerEventOf toks g)
    have hget : toks[g.start]? = some toks[g.start] := List.getElem?_eq_getElem hg
    split
    · rw [hget]; simp; omega
    · simp; omega

/-- Non-vacuity: the header of tests/rules/samples/test_file_1012.c is well formed. -/
def exHeader : Header where
  b2 := "                                                                            ".toList
  b3 := "                                                        :::      ::::::::   ".toList
  f3 := "   ".toList
  fname := "hud.c                                              :+:      :+:    :+:   ".toList
  b5 := "                                                    +:+ +:+         +:+     ".toList
  by_ := "vgauther <vgauther@student.42.fr>          +#+  +:+       +#+        ".toList
  b7 := "                                                +#+#+#+#+#+   +#+           ".toList
  cdate := "2018/03/29".toList
  ctime := "13:47:14".toList
  crest := "vgauther          #+#    #+#             ".toList
  udate := "2018/05/02".toList
  utime := "21:16:08".toList
  urest := "vgauther         ###   ########.fr       ".toList
  b10 := "                                                                            ".toList
example : exHeader.WF := by unfold Header.WF; decide
example : searchNfa Generated.headerRegex exHeader.text = true := by
  refine go_of_goRuns 892 _ _ ?_
  -- the kernel would decode every `"…".toList` (20 M heartbeats for these fourteen); `toList_ofList` spells them out
  unfold Header.text Header.lines exHeader cm frameText
  dsimp only
  repeat rw [String.toList_ofList]
  decide +kernel

end Norm.C13
