/-
C08 — reports are well-formed, ordered and identical in both output formats.
Statements only; helper lemmas live in Proofs/.
-/
import NormModel.Proofs.Reports
import NormModel.Proofs.LexTotal
import NormModel.Properties.C09
import NormModel.Generated.Catalogue
import NormModel.Proofs.TableCheck
namespace Norm.C08
open Norm

/-- The diagnostics of a file are listed in ascending (line, column) order of the position
that is displayed, for every list of diagnostics that each carry at least one highlight
(unbounded positions, names, highlight lists). -/
theorem sorted_display (ds : List Diag) (h : ∀ d ∈ ds, HasHl d) :
    (sortDiags ds).Pairwise (fun a b => ∀ pa pb, a.pos? = some pa → b.pos? = some pb → posLe pa pb) := by
  exact (sortDiags_sorted ds h).imp (fun hab pa pb ha hb => Diag.le_posLe hab ha hb)

/-- Sorting loses, duplicates and invents nothing. -/
theorem sorted_perm (ds : List Diag) : (sortDiags ds).Perm ds := sortBy_perm _ _

/-- Diagnostics displayed at the same position are ordered by code. -/
theorem sorted_ties_by_name (ds : List Diag) (h : ∀ d ∈ ds, HasHl d) :
    (sortDiags ds).Pairwise (fun a b => a.pos? = b.pos? → a.name ≤ b.name) := by
  have hm : ∀ d ∈ sortDiags ds, HasHl d := fun d hd => h d (mem_sortBy.mp hd)
  refine (List.Pairwise.and_mem.mp (sortDiags_sorted ds h)).imp ?_
  rintro a b ⟨ha, hb, hab⟩ hpos
  obtain ⟨x, xs, e1⟩ := List.exists_cons_of_ne_nil (hm a ha)
  obtain ⟨y, ys, e2⟩ := List.exists_cons_of_ne_nil (hm b hb)
  rw [Diag.le_iff_key e1 e2] at hab
  unfold Diag.pos? at hpos
  simp [e1, e2] at hpos
  unfold keyLe at hab
  rcases hab with hlt | ⟨_, hn⟩
  · simp at hlt; omega
  · exact hn

/-- The verdict of a file is `OK` iff it has no Error-level diagnostic. -/
theorem status_ok_iff (ds : List Diag) : status ds = .ok ↔ ∀ d ∈ ds, d.level = .notice :=
  status_eq_ok_iff ds

/-- The JSON document describes exactly the same files, verdicts and diagnostics, in the
same order, as the human-readable one (whenever the base name shown is the base name of
the absolute path stored in the JSON — `os.path.basename(os.path.abspath(p))`). -/
theorem formats_agree (fs : List FileRep) (hb : ∀ f ∈ fs, basenameOf f.abspath = f.basename) :
    projectJson (jsonDoc fs) = humanDoc fs := by
  unfold projectJson jsonDoc humanDoc
  congr 1
  rw [List.map_map]
  apply List.map_congr_left
  intro f hf
  simp [hb f hf]

/-- Both formats iterate the same sorted list: the JSON error list is the sorted list. -/
theorem json_errors_sorted (fs : List FileRep) :
    (jsonDoc fs).map (·.errors) = fs.map (fun f => sortDiags f.diags) := by
  unfold jsonDoc; simp

/-- Every diagnostic code the lexer model can emit through `Error.from_name` is a key of
the published catalogue (so `catText` is the catalogue text, never the KeyError marker). -/
def lexerCodes : List String :=
  ["NO_HEX_DIGITS", "UNKNOWN_ESCAPE", "MAXIMAL_MUNCH", "INVALID_SUFFIX", "INVALID_BIN_INT",
   "INVALID_OCT_INT", "INVALID_HEX_INT", "BAD_EXPONENT", "MULTIPLE_X", "MULTIPLE_DOTS",
   "BAD_FLOAT_SUFFIX", "UNEXPECTED_EOF_CHR", "UNEXPECTED_EOL_CHR", "EMPTY_CHAR", "CHAR_AS_STRING",
   "UNEXPECTED_EOF_STR", "UNEXPECTED_EOF_MC"]

theorem lexer_codes_in_catalogue :
    ∀ c ∈ lexerCodes, (Generated.catalogue.map Prod.fst).contains c = true := by decide +kernel

/-- Catalogue keys are unique, so "the catalogue text of a code" is well defined. -/
theorem catalogue_keys_nodup : (Generated.catalogue.map Prod.fst).Nodup :=
  nodup_of_codes strCode _ (by decide +kernel)

/-- No two codes share a text (a diagnostic's text identifies its code), except the one pair
the published catalogue has always shared. -/
theorem catalogue_texts_distinct :
    ((Generated.catalogue.filter (fun kv => kv.1 != "TAB_REPLACE_SPACE")).map Prod.snd).Nodup :=
  nodup_of_codes strCode _ (by decide +kernel)

/-- Every diagnostic the lexer produces carries at least one highlight, for every input
(needed: the comparator is only a strict weak order on such diagnostics, and both
formatters read `highlights[0]`). -/
theorem lexer_diags_have_highlight (u : Uni) (src : List Char) (r : LexResult) (h : lex u src = .ok r) :
    ∀ d ∈ r.diags, HasHl d := by
  unfold lex at h
  split at h
  · cases h
  · rename_i items sf hrun
    simp only [Except.ok.injEq] at h
    subst h
    obtain ⟨_, ⟨n, _, _, _, _, ds, h5, h6⟩, _⟩ := lexItems_tiling u src _ _ items sf (good_init src) hrun
    intro d hd
    simp only at hd
    rw [h5] at hd
    simp only [List.nil_append] at hd
    exact (h6 d hd).hasHl

/-- number of lines of a text: one per newline, plus the last line when it does not end with one -/
def numLines (src : List Char) : Nat :=
  src.count '\n' + (if src = [] ∨ src.getLast? = some '\n' then 0 else 1)

/-- **The printed position of every lexical diagnostic lies inside the file**: `1 ≤ line ≤ number of lines` and
`column ≥ 1`, for every source text (from `C09.diag_positions`: the position is that of a character of the file). -/
theorem lexer_diag_inside_file (u : Uni) (src : List Char) (r : LexResult) (h : lex u src = .ok r) :
    ∀ d ∈ r.diags, ∃ hl tl, d.highlights = hl :: tl ∧ 1 ≤ hl.line ∧ hl.line ≤ numLines src ∧ 1 ≤ hl.col := by
  intro d hd
  obtain ⟨hl, tl, k, e1, e2, e3⟩ := C09.diag_positions u src r h d hd
  refine ⟨hl, tl, e1, ?_⟩
  have hline := advPos_line_eq (1, 1) (src.take k)
  have hcol := advPos_col_pos (1, 1) (src.take k) (by decide)
  unfold Spec.visualPos at e3
  have h1 : hl.line = (Spec.advPos (1, 1) (src.take k)).1 := congrArg Prod.fst e3
  have h2 : hl.col = (Spec.advPos (1, 1) (src.take k)).2 := congrArg Prod.snd e3
  simp only at hline
  have hsplit : src.count '\n' = (src.take k).count '\n' + (src.drop k).count '\n' := by
    conv => lhs; rw [← List.take_append_drop k src]
    exact List.count_append
  have hne : src.drop k ≠ [] := by
    intro e
    have := congrArg List.length e
    simp at this; omega
  have hsrc : src ≠ [] := by intro e; subst e; simp at e2
  unfold numLines
  by_cases hc : (src.drop k).count '\n' = 0
  · have hnot : ¬ (src = [] ∨ src.getLast? = some '\n') := by
      rintro (e | e)
      · exact hsrc e
      · have hl2 : src.getLast? = (src.drop k).getLast? := by
          conv => lhs; rw [← List.take_append_drop k src]
          rw [List.getLast?_append]
          cases hg : (src.drop k).getLast? with
          | none => exact absurd (List.getLast?_eq_none_iff.mp hg) hne
          | some x => rfl
        rw [hl2] at e
        have hmem : '\n' ∈ src.drop k := List.mem_of_getLast? e
        have := List.count_pos_iff.mpr hmem
        omega
    simp only [hnot, ↓reduceIte]
    omega
  · split <;> omega

/-- Non-vacuity: a concrete list with ties, several highlights and a Notice. -/
def exampleDiags : List Diag := [
  { name := "B", text := "", highlights := [⟨3, 5, none, none⟩, ⟨1, 1, none, none⟩] },
  { name := "A", text := "", level := .notice, highlights := [⟨3, 5, none, none⟩] },
  { name := "C", text := "", highlights := [⟨2, 9, none, none⟩] }]

example : (∀ d ∈ exampleDiags, HasHl d) ∧
    (sortDiags exampleDiags).map (·.name) = ["C", "A", "B"] ∧ status exampleDiags = .error := by
  decide

end Norm.C08
