/-
C01 — Norm-conforming files are accepted (the provable fragments).
The full statement quantifies over the conforming-program grammar of DESIGN §4.1 and over the
whole rule table; what is proved here are the clauses that stand on modelled code:
verdict/exit plumbing, the header, integer constants, the 80-column limit.  The rest is decided
per program by the acceptance oracle on the real pipeline.
-/
import NormModel.Properties.C03
import NormModel.Properties.C04
import NormModel.Properties.C11
import NormModel.Properties.C13
import NormModel.Proofs.Spacing
namespace Norm.C01
open Norm Spec

/-- full statement, kept visible: every program of the grammar gets only Notices -/
def full (Conforming : Type) (render : Conforming → List Char) (diagnose : List Char → Option (List Diag)) : Prop :=
  ∀ p : Conforming, ∃ ds, diagnose (render p) = some ds ∧ ∀ d ∈ ds, d.level = .notice

/-- **Verdict and exit status**: files whose diagnostics are all Notices are each reported
`OK` and the run exits 0, for any number of files. -/
theorem verdict_ok (fs : List CliFile) (hnf : firstFatal fs = none) (hh : C04.AllHl fs)
    (hn : ∀ f ∈ fs, ∀ d ∈ f.diags, d.level = .notice) :
    (cliRun .humanized fs).exit = 0 ∧
    ∃ doc, (cliRun .humanized fs).printed = .human doc ∧ ∀ g ∈ doc, g.status = .ok := by
  have hall : ∀ f ∈ fs, status f.diags = .ok := fun f hf => (C04.ok_iff f).mpr (hn f hf)
  obtain ⟨doc, hdoc, hrun⟩ := cliRun_human hnf hh
  rw [hrun]
  refine ⟨(exitOf_zero_iff fs).mpr hall, doc, rfl, fun g hg => ?_⟩
  have : g.status ∈ doc.map (·.status) := List.mem_map.mpr ⟨g, hg, rfl⟩
  rw [(humanDoc_shape hdoc).2.1] at this
  obtain ⟨f, hf, hfe⟩ := List.mem_map.mp this
  obtain ⟨f', hf', rfl⟩ := List.mem_map.mp hf
  exact hfe ▸ hall f' hf'

/-- the column of a position inside a line never exceeds the column at the end of the line -/
theorem col_mono (l : List Char) (hnl : ∀ c ∈ l, c ≠ '\n') (k : Nat) (p : Nat × Nat) :
    (advPos p (l.take k)).2 ≤ (advPos p l).2 := by
  -- columns only grow along a line
  have grow : ∀ (m : List Char) (q : Nat × Nat), (∀ c ∈ m, c ≠ '\n') → q.2 ≤ (advPos q m).2 := by
    intro m
    induction m with
    | nil => intro q _; exact Nat.le_refl _
    | cons d ds ihm =>
      intro q hq
      have := ihm (advPos1 q d) fun e he => hq e (List.mem_cons_of_mem _ he)
      have h1 : q.2 ≤ (advPos1 q d).2 := by
        unfold advPos1; simp only [hq d List.mem_cons_self, ↓reduceIte]; split <;> simp
      exact Nat.le_trans h1 this
  conv => rhs; rw [← List.take_append_drop k l, advPos_append]
  exact grow _ _ fun c hc => hnl c (List.mem_of_mem_drop hc)

/-- **No line-length diagnostic in a file whose lines are all at most 80 columns wide**: every
position inside such a line, in particular the start of every token (C09), is at column ≤ 81,
so `CheckLineLen` finds nothing to report in any statement. -/
theorem linelen_silent (toks : List (Nat × Nat)) (h : ∀ t ∈ toks, t.2 ≤ 81) : checkLineLen toks [] = [] := by
  refine List.eq_nil_iff_forall_not_mem.mpr fun l hm => ?_
  obtain ⟨t, ht, _, h81⟩ := (C03.linelen_iff toks l).mp hm
  have := h t ht
  omega

theorem token_col_le (pre line : List Char) (hpre : pre = [] ∨ pre.getLast? = some '\n')
    (hnl : ∀ c ∈ line, c ≠ '\n') (hw : C03.lineWidth line ≤ 80) (k : Nat) (hk : k ≤ line.length) (rest : List Char) :
    (visualPos (pre ++ line ++ rest) (pre.length + k)).2 ≤ 81 := by
  have h1 := C19.visualPos_prefix pre (line ++ rest) k hpre
  rw [List.append_assoc, h1]
  simp only [visualPos]
  have : (line ++ rest).take k = line.take k := by
    rw [List.take_append_of_le_length hk]
  rw [this]
  have := col_mono line hnl k (1, 1)
  unfold C03.lineWidth at hw
  omega

/-! ### The always-run checks are silent on conforming token lists, for every rule table -/

/-- **`CheckSpacing` invents nothing**: if no SPACE token of the file is at column 1, next to
another blank or before a NEWLINE, and no TAB is directly before a NEWLINE (which is what "tab
indentation, single spaces, no trailing blanks" means for the token list), then `CheckSpacing`
adds no diagnostic anywhere in the file — whatever the primaries match. -/
theorem spacing_silent (toks : List Token) (trace : List Segment) (hc : WsClean toks) :
    spacingDiagsRun toks trace = [] := spacingDiagsRun_clean toks trace hc

/-- **`CheckTernary` and `CheckLineLen` invent nothing**: a file without `?` tokens whose tokens
all start at or before column 81 gets nothing from them. -/
theorem always_silent (toks : List Token) (trace : List Segment)
    (hq : ∀ tk ∈ toks, tk.type ≠ "TERN_CONDITION") (hcol : ∀ tk ∈ toks, tk.col ≤ 81) :
    alwaysDiagsRun toks trace = [] := by
  refine List.eq_nil_iff_forall_not_mem.mpr fun d hd => ?_
  obtain ⟨g, _, ⟨tk, htk, hty, _⟩ | ⟨tk, htk, _⟩⟩ := mem_alwaysDiagsRun.mp hd
  · exact hq tk (segToks_sub toks g tk htk) hty
  · have := hcol tk (segToks_sub toks g tk (lineLenToks_sound _ _ _ htk).1)
    have := (lineLenToks_sound _ _ _ htk).2
    omega

/-- **`CheckManyInstructions` invents nothing**: if every statement starts at column 1 (one instruction per line: the
indentation belongs to the statement), no TOO_MANY_INSTR is added — whatever the primaries match. -/
theorem many_instr_silent (toks : List Token) (trace : List Segment)
    (h : ∀ g ∈ trace, ∀ tk, toks[g.start]? = some tk → tk.col ≤ 1) : manyInstrDiagsRun toks trace = [] := by
  refine List.eq_nil_iff_forall_not_mem.mpr fun d hd => ?_
  obtain ⟨g, hg, tk, htk, _, hc, _⟩ := mem_manyInstrDiagsRun.mp hd
  have := h g hg tk htk
  omega

/-- Non-vacuity: the token list of `\tx = a + 1;\n` is cleanly spaced. -/
example : spacingDiagsRun [⟨"TAB", 1, 1, none, 0, 1⟩, ⟨"IDENTIFIER", 1, 5, some "x", 1, 2⟩, ⟨"SPACE", 1, 6, none, 2, 3⟩,
    ⟨"ASSIGN", 1, 7, none, 3, 4⟩, ⟨"SPACE", 1, 8, none, 4, 5⟩, ⟨"IDENTIFIER", 1, 9, some "a", 5, 6⟩, ⟨"SEMI_COLON", 1, 10, none, 6, 7⟩,
    ⟨"NEWLINE", 1, 11, none, 7, 8⟩] [⟨"IsAssignation", 0, 8⟩] = [] := by decide +kernel

/- the header of a conforming file is `C13.accept`, its integer constants are `C11.int_valid`
(imported above, re-checked with this file) -/

end Norm.C01
