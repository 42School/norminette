/-
C02 — every enforced Norm violation is reported on its line (the provable fragments).
For the violations whose rule is modelled: the rule emits the code whenever the statement it
is handed contains the pattern.  That the edited line IS handed to that rule as (part of) a
statement of the right kind is the segmentation hypothesis (C07 gives the partition, the
kind of each statement depends on unported primaries) — decided per program by the catalogue
oracle on the real pipeline.
-/
import NormModel.Properties.C03
import NormModel.Properties.C09
import NormModel.Properties.C04
import NormModel.Properties.C13
import NormModel.Properties.C14
import NormModel.Proofs.Spacing
namespace Norm.C02
open Norm

/-- full statement, kept visible -/
def full (Conforming Op Site : Type) (apply : Op → Conforming → Site → List Char) (code : Op → String)
    (line : Op → Conforming → Site → Nat) (diagnose : List Char → Option (List (String × Nat))) : Prop :=
  ∀ o p s, ∃ ds, diagnose (apply o p s) = some ds ∧ (code o, line o p s) ∈ ds

/-- V82 (a line of 81 columns or more): a token starting beyond column 81 on line `l` in the
statement makes `CheckLineLen` report `l`. -/
theorem v82_line_too_long (toks : List (Nat × Nat)) (l c : Nat) (h : (l, c) ∈ toks) (hc : 81 < c) :
    l ∈ checkLineLen toks [] :=
  (C03.linelen_iff toks l).mpr ⟨(l, c), h, rfl, hc⟩

/- V83 (header removed) is `C13.reject_no_header`; V84a–f (guard mutations) are `C14.wrong_symbol`,
`missing_define`, `doubled`, `code_before`, `code_after` — imported above, re-checked with this file. -/


/-! ### End to end, for every rule table: violations caught by the always-run checks -/

/-- **V41 (ternary)**: in every file that reaches a verdict, whatever the primaries and the
other checks do, every `?` token gets `TERNARY_FBIDDEN` at its own position — `CheckTernary`
runs after every matched primary and the statements tile the token list (C07). -/
theorem ternary_e2e {σ : Type} (step : σ → Nat → StepRes σ) (s s' : σ) (toks : List Token)
    (t : List Segment) (u : List Nat) (h : engineRun step 0 s toks.length = .ok s' t u)
    (tk : Token) (htk : tk ∈ toks) (hty : tk.type = "TERN_CONDITION") :
    tokDiag "TERNARY_FBIDDEN" tk ∈ alwaysDiagsRun toks t := by
  obtain ⟨g, hg, hseg⟩ := token_in_some_segment step s s' toks t u h tk htk
  exact mem_alwaysDiagsRun.mpr ⟨g, hg, Or.inl ⟨tk, hseg, hty, rfl⟩⟩

/-- … and `CheckTernary` never invents one: each such diagnostic sits on a `?` token of the file. -/
theorem ternary_sound (toks : List Token) (t : List Segment) (d : Diag)
    (hd : d ∈ alwaysDiagsRun toks t) (hn : d.name = "TERNARY_FBIDDEN") :
    ∃ tk ∈ toks, tk.type = "TERN_CONDITION" ∧ d = tokDiag "TERNARY_FBIDDEN" tk := by
  obtain ⟨g, _, ⟨tk, h1, h2, rfl⟩ | ⟨tk, _, rfl⟩⟩ := mem_alwaysDiagsRun.mp hd
  · exact ⟨tk, segToks_sub toks g tk h1, h2, rfl⟩
  · exact absurd hn (show "LINE_TOO_LONG" ≠ "TERNARY_FBIDDEN" by decide)

/-- **V01 (trailing blank), end to end for every rule table**: in a file that reaches a verdict,
a SPACE token at index `p` that is not at column 1, follows a token that is neither blank nor a
brace, and is followed only by blanks up to a NEWLINE token, gets `SPC_BEFORE_NL` at its own
position — provided the primary that matched its statement is not `IsEmptyLine` or
`IsPreprocessorStatement` (after those `CheckSpacing` returns at once; for an empty line the
violation is V03). `CheckSpacing` runs after every matched primary; the statements tile the
token list (C07); inside the statement its loop reaches every start of a run of blanks. -/
theorem trailing_space_e2e {σ : Type} (step : σ → Nat → StepRes σ) (s s' : σ) (toks : List Token)
    (t : List Segment) (u : List Nat) (h : engineRun step 0 s toks.length = .ok s' t u)
    (p m : Nat) (tk prev : Token) (htk : toks[p]? = some tk) (hS : tk.type = "SPACE") (hcol : tk.col ≠ 1)
    (hp : 0 < p) (hprev : toks[p - 1]? = some prev)
    (hprevty : prev.type ≠ "SPACE" ∧ prev.type ≠ "TAB" ∧ prev.type ≠ "LBRACE" ∧ prev.type ≠ "RBRACE")
    (hlast : ∀ b, toks.getLast? = some b → b.type ≠ "LBRACE" ∧ b.type ≠ "RBRACE")
    (hpm : p < m) (hblank : ∀ j, p ≤ j → j < m → isBlank toks j = true) (hnl : isTy toks m "NEWLINE" = true)
    (hrule : ∀ g ∈ t, g.start ≤ p → p < g.start + g.len → g.rule ≠ "IsEmptyLine" ∧ g.rule ≠ "IsPreprocessorStatement") :
    tokDiag "SPC_BEFORE_NL" tk ∈ spacingDiagsRun toks t := by
  have hpl : p < toks.length := (List.getElem?_eq_some_iff.mp htk).1
  obtain ⟨g, hg, hg1, hg2⟩ := engineRun_covers h hpl
  unfold spacingDiagsRun
  refine List.mem_flatMap.mpr ⟨g, hg, ?_⟩
  have hk : g.start + (p - g.start) = p := by omega
  apply trailing_space_reported g.rule (toks.drop g.start) g.len (p - g.start) (m - g.start) tk (hrule g hg hg1 hg2)
  · omega
  · rw [List.getElem?_drop, hk]; exact htk
  · exact hS
  · exact hcol
  · -- run start
    by_cases h0 : p - g.start = 0
    · left; exact h0
    · right
      rw [isTy_drop, isTy_drop]
      have : g.start + (p - g.start - 1) = p - 1 := by omega
      rw [this]
      unfold isTy; rw [hprev]
      simp [hprevty.1, hprevty.2.1]
  · -- no brace before (Python's index -1 is the last token of the file)
    unfold braceBefore tokBefore
    by_cases h0 : p - g.start = 0
    · simp only [h0, ↓reduceIte]
      have hne : toks.drop g.start ≠ [] := by
        intro e
        have := congrArg List.length e
        simp only [List.length_drop, List.length_nil] at this; omega
      cases hl : (toks.drop g.start).getLast? with
      | none => rfl
      | some b =>
        have hb : toks.getLast? = some b := by
          rw [List.getLast?_drop] at hl
          split at hl
          · cases hl
          · exact hl
        have := hlast b hb
        simp [this.1, this.2]
    · simp only [h0, ↓reduceIte]
      rw [List.getElem?_drop]
      have : g.start + (p - g.start - 1) = p - 1 := by omega
      rw [this, hprev]
      simp [hprevty.2.2.1, hprevty.2.2.2]
  · omega
  · intro j h1 h2
    rw [isBlank_drop]
    exact hblank _ (by omega) (by omega)
  · rw [isTy_drop]
    have : g.start + (m - g.start) = m := by omega
    rw [this]; exact hnl

/-- Non-vacuity: `a = b ;<space><newline>` matched as one statement. -/
example :
    let toks : List Token := [⟨"IDENTIFIER", 3, 1, some "a", 0, 1⟩, ⟨"SEMI_COLON", 3, 2, none, 1, 2⟩, ⟨"SPACE", 3, 3, none, 2, 3⟩,
      ⟨"NEWLINE", 3, 4, none, 3, 4⟩]
    (spacingDiagsRun toks [⟨"IsAssignation", 0, 4⟩]).map (fun d => (d.name, d.highlights.map (fun h => (h.line, h.col))))
      = [("SPC_BEFORE_NL", [(3, 3)])] := by decide +kernel

/-- **V45 (several instructions on a line), end to end for every rule table**: in a file lexed from `src` that reaches
a verdict, a statement matched by one of the primaries after which the registry runs `CheckManyInstructions`
(assignment, block end, control statement, expression statement, function declaration/prototype, user type, variable
declaration, function call — read from the regenerated dependency table) and whose first token is NOT the first thing
on its line gets `TOO_MANY_INSTR` at that token. "Not the first thing on its line" is stated on the raw text
(`C09.column_one_iff_line_start`). -/
theorem many_instr_e2e (u : Uni) (src : List Char) (r : LexResult) (hlex : lex u src = .ok r)
    (t : List Segment) (g : Segment) (hg : g ∈ t) (hrule : runsAfter "CheckManyInstructions" g.rule = true)
    (tk : Token) (htk : r.tokens[g.start]? = some tk)
    (hmid : tk.start ≠ 0 ∧ src[tk.start - 1]? ≠ some '\n') :
    tokDiag "TOO_MANY_INSTR" tk ∈ manyInstrDiagsRun r.tokens t := by
  have hmem : tk ∈ r.tokens := List.mem_of_getElem? htk
  have hcol : tk.col ≠ 1 := by
    intro h1
    rcases (C09.column_one_iff_line_start u src r hlex tk hmem).mp h1 with h | h
    · exact hmid.1 h
    · exact hmid.2 h
  have hpos : 1 ≤ tk.col := by
    obtain ⟨hp, _, _⟩ := C09.token_positions u src r hlex tk hmem
    have hc : tk.col = (Spec.visualPos src tk.start).2 := congrArg Prod.snd hp
    rw [hc]
    exact advPos_col_pos (1, 1) _ (by decide)
  exact mem_manyInstrDiagsRun.mpr ⟨g, hg, tk, htk, hrule, by omega, rfl⟩

/-- … and `CheckManyInstructions` invents nothing: each TOO_MANY_INSTR of the run sits on the first token of a statement
of one of those kinds, and that token is not the first thing on its line. -/
theorem many_instr_sound (u : Uni) (src : List Char) (r : LexResult) (hlex : lex u src = .ok r)
    (t : List Segment) (d : Diag) (hd : d ∈ manyInstrDiagsRun r.tokens t) :
    ∃ g ∈ t, ∃ tk, r.tokens[g.start]? = some tk ∧ runsAfter "CheckManyInstructions" g.rule = true ∧
      d = tokDiag "TOO_MANY_INSTR" tk ∧ tk.start ≠ 0 ∧ src[tk.start - 1]? ≠ some '\n' := by
  obtain ⟨g, hg, tk, htk, hr, hc, rfl⟩ := mem_manyInstrDiagsRun.mp hd
  have hiff := C09.column_one_iff_line_start u src r hlex tk (List.mem_of_getElem? htk)
  refine ⟨g, hg, tk, htk, hr, rfl, fun h0 => ?_, fun h0 => ?_⟩
  · have := hiff.mpr (Or.inl h0); omega
  · have := hiff.mpr (Or.inr h0); omega

/-- Non-vacuity: `a = 1; b = 2;` on one line — the second assignment is reported. -/
example :
    let toks : List Token := [⟨"IDENTIFIER", 1, 1, some "a", 0, 1⟩, ⟨"SEMI_COLON", 1, 2, none, 1, 2⟩, ⟨"SPACE", 1, 3, none, 2, 3⟩,
      ⟨"IDENTIFIER", 1, 4, some "b", 3, 4⟩, ⟨"SEMI_COLON", 1, 5, none, 4, 5⟩, ⟨"NEWLINE", 1, 6, none, 5, 6⟩]
    (manyInstrDiagsRun toks [⟨"IsAssignation", 0, 3⟩, ⟨"IsAssignation", 3, 3⟩, ⟨"IsEmptyLine", 5, 1⟩]).map
        (fun d => (d.name, d.highlights.map (fun h => (h.line, h.col))))
      = [("TOO_MANY_INSTR", [(1, 4)])] ∧ runsAfter "CheckManyInstructions" "IsAssignation" = true ∧
        runsAfter "CheckManyInstructions" "IsComment" = false := by decide +kernel

/- V82 end to end (a line wider than 80 columns ending in a newline token is reported, for every
rule table) is `C03.long_line_reported`. -/

/-- Non-vacuity: two statements, a ternary in the second, a token beyond column 81 in the first. -/
example :
    let toks : List Token := [⟨"IDENTIFIER", 1, 1, some "a", 0, 1⟩, ⟨"SEMI_COLON", 1, 83, none, 82, 83⟩, ⟨"NEWLINE", 1, 84, none, 83, 84⟩,
      ⟨"IDENTIFIER", 2, 1, some "b", 84, 85⟩, ⟨"TERN_CONDITION", 2, 3, none, 86, 87⟩, ⟨"NEWLINE", 2, 4, none, 87, 88⟩]
    (alwaysDiagsRun toks [⟨"A", 0, 3⟩, ⟨"B", 3, 3⟩]).map (fun d => (d.name, d.highlights.map (fun h => (h.line, h.col))))
      = [("LINE_TOO_LONG", [(1, 83)]), ("TERNARY_FBIDDEN", [(2, 3)])] := by decide +kernel

/-- V23 / V27 / V33 / V34 (one past a counter limit): the comparison fires. -/
theorem counters_fire : tooManyVars 6 = true ∧ tooManyArgs 4 = true ∧ tooManyLines 27 = true ∧ tooManyFuncs 6 = true := by
  decide

/-- once one Error-level diagnostic exists the file is `Error!` and the exit status is non-zero -/
theorem verdict_error (fmt : Format) (fs : List CliFile) (hnf : firstFatal fs = none) (hh : C04.AllHl fs)
    (f : CliFile) (hf : f ∈ fs) (d : Diag) (hd : d ∈ f.diags) (he : d.level = .error) :
    (cliRun fmt fs).exit ≠ 0 ∧ status f.diags = .error := by
  have hs : status f.diags ≠ .ok := by
    intro h
    have := (C04.ok_iff f).mp h d hd
    rw [he] at this; cases this
  refine ⟨?_, ?_⟩
  · intro h0
    exact hs ((C04.exit_iff fmt fs hnf hh).mp h0 f hf)
  · cases h : status f.diags
    · exact absurd h hs
    · rfl

end Norm.C02
