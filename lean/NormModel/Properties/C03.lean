/-
C03 — numeric limits are enforced exactly at their boundary.
-/
import NormModel.Model.Limits
import NormModel.Proofs.Checks
import NormModel.Properties.C09
import NormModel.Properties.C19
import NormModel.Generated.Rules
namespace Norm.C03
open Norm Spec

/-- visual width of a line (without its newline): columns it occupies, tab stops every 4 -/
def lineWidth (l : List Char) : Nat := (advPos (1, 1) l).2 - 1

theorem checkLineLen_mem (toks : List (Nat × Nat)) (seen : List Nat) (l : Nat) :
    l ∈ checkLineLen toks seen ↔ l ∉ seen ∧ ∃ t ∈ toks, t.1 = l ∧ 81 < t.2 := by
  induction toks generalizing seen with
  | nil => simp [checkLineLen]
  | cons t rest ih =>
    obtain ⟨tl, tc⟩ := t
    have hex : (∃ t ∈ (tl, tc) :: rest, t.1 = l ∧ 81 < t.2) ↔ (tl = l ∧ 81 < tc) ∨ ∃ t ∈ rest, t.1 = l ∧ 81 < t.2 := by
      simp
    rw [hex]
    unfold checkLineLen
    split
    · -- reported here; later tokens of line `tl` are skipped
      rename_i hc
      have hc : 81 < tc ∧ tl ∉ seen := by simpa using hc
      rw [List.mem_cons, ih, List.mem_cons, not_or]
      constructor
      · rintro (rfl | ⟨⟨_, h1⟩, e⟩)
        · exact ⟨hc.2, Or.inl ⟨rfl, hc.1⟩⟩
        · exact ⟨h1, Or.inr e⟩
      · rintro ⟨h1, ⟨rfl, _⟩ | e⟩
        · exact Or.inl rfl
        · by_cases hl : l = tl
          · exact Or.inl hl
          · exact Or.inr ⟨⟨hl, h1⟩, e⟩
    · -- not reported here: not beyond column 81, or its line is in `seen`
      rename_i hc
      have hc : ¬ (81 < tc ∧ tl ∉ seen) := by simpa using hc
      rw [ih]
      exact and_congr_right fun h1 => ⟨Or.inr, fun h => h.resolve_left fun ⟨e, h81⟩ => hc ⟨h81, e ▸ h1⟩⟩

/-- **`CheckLineLen` reports a line iff some token of the statement on that line starts
beyond column 81** — for every statement. -/
theorem linelen_iff (toks : List (Nat × Nat)) (l : Nat) :
    l ∈ checkLineLen toks [] ↔ ∃ t ∈ toks, t.1 = l ∧ 81 < t.2 :=
  (checkLineLen_mem toks [] l).trans (and_iff_right List.not_mem_nil)

/-- each line is reported at most once per statement -/
theorem linelen_nodup (toks : List (Nat × Nat)) (seen : List Nat) : (checkLineLen toks seen).Nodup := by
  induction toks generalizing seen with
  | nil => simp [checkLineLen]
  | cons t rest ih =>
    obtain ⟨tl, tc⟩ := t
    unfold checkLineLen
    split
    · rw [List.nodup_cons]
      refine ⟨?_, ih _⟩
      rw [checkLineLen_mem]; simp
    · exact ih _

/-- the column of the newline that ends a line of width `w`, with any text after it -/
theorem newline_column_rest (pre line rest : List Char) (h : pre = [] ∨ pre.getLast? = some '\n') :
    visualPos (pre ++ line ++ '\n' :: rest) (pre.length + line.length) =
      (1 + C19.nlCount pre + C19.nlCount line, lineWidth line + 1) := by
  rw [List.append_assoc, C19.visualPos_prefix pre (line ++ '\n' :: rest) line.length h]
  simp only [visualPos, List.take_left']
  have hl := C19.advPos_lines (1, 1) line
  have hpos := advPos_col_pos (1, 1) line (Nat.le_refl 1)
  unfold lineWidth
  ext
  · simp only [hl]; omega
  · simp only; omega

/-- **The NEWLINE token that ends a line of width `w` is at column `w + 1`** (whatever
precedes the line), so by `linelen_iff` a code line ending in a newline is reported iff its
width exceeds 80 — tabs at any offset included. -/
theorem newline_column (pre line : List Char) (h : pre = [] ∨ pre.getLast? = some '\n') :
    (visualPos (pre ++ line ++ ['\n']) (pre.length + line.length)).2 = lineWidth line + 1 :=
  congrArg Prod.snd (newline_column_rest pre line [] h)

theorem code_line_reported_iff (pre line : List Char) (h : pre = [] ∨ pre.getLast? = some '\n') :
    81 < (visualPos (pre ++ line ++ ['\n']) (pre.length + line.length)).2 ↔ 80 < lineWidth line := by
  rw [newline_column pre line h]; omega

/-- `CheckLineLen` runs after every matched primary rule (it is in the `_rule` list of the
registry computed by the real code), so every statement's tokens go through it. -/
theorem linelen_runs_on_every_rule :
    ∃ kv ∈ Generated.dependencies, kv.1 = "_rule" ∧ "CheckLineLen" ∈ kv.2 := by decide +kernel

/-- **`//` comments**: reported iff the comment ends beyond column 80. -/
theorem line_comment_iff (col len : Nat) (hc : 1 ≤ col) :
    lineCommentTooLong col len = true ↔ 80 < (col - 1) + len := by
  unfold lineCommentTooLong; simp; omega

/-- **Block comments**: line `i` of the comment is reported iff its width exceeds 80 (the
first line counted from the column where the comment starts). -/
theorem block_comment_iff (col first : Nat) (rest : List Nat) (i : Nat) :
    i ∈ blockCommentTooLong col (first :: rest) ↔ ∃ w, ((col - 1 + first) :: rest)[i]? = some w ∧ 80 < w := by
  unfold blockCommentTooLong
  simp only [List.mem_filterMap]
  constructor
  · rintro ⟨⟨w, j⟩, hm, hf⟩
    have hget := List.mem_zipIdx_iff_getElem?.mp hm
    simp only at hget hf
    split at hf
    · rename_i h80
      simp only [Option.some.injEq] at hf
      subst hf
      exact ⟨w, hget, h80⟩
    · cases hf
  · rintro ⟨w, hw, h80⟩
    refine ⟨(w, i), List.mk_mem_zipIdx_iff_getElem?.mpr hw, by simp [h80]⟩

/-- **The four counters are compared exactly at their limit.** -/
theorem counters_exact :
    (∀ body, tooManyLines (body + 1) = true ↔ 25 < body) ∧
    (∀ n, tooManyFuncs n = true ↔ 5 < n) ∧
    (∀ commas, tooManyArgs commas = true ↔ 4 < commas + 1) ∧
    (∀ n, tooManyVars n = true ↔ 5 < n) := by
  refine ⟨?_, ?_, ?_, ?_⟩ <;> intro n <;> simp [tooManyLines, tooManyFuncs, tooManyArgs, tooManyVars] <;> omega


/-! ### End to end: the whole file, any rule table

`CheckLineLen` is in the `_rule` list (obligation `linelen_runs_on_every_rule`), so the engine
hands it every statement; the statements tile the token list (C07). Hence, for **every** rule
table (`step` universally quantified: nothing is assumed about the unported rules beyond that
the run reaches a verdict), the lines reported by `CheckLineLen` over the whole file are
exactly the lines holding a token that starts beyond column 81. -/

theorem tokDiag_name (c : String) (t : Token) : (tokDiag c t).name = c := rfl
theorem tokDiag_highlights (c : String) (t : Token) : (tokDiag c t).highlights = [hlOfToken t] := rfl

/-- **File-level iff**, in terms of tokens. -/
theorem linelen_e2e {σ : Type} (step : σ → Nat → StepRes σ) (s s' : σ) (toks : List Token)
    (t : List Segment) (u : List Nat) (h : engineRun step 0 s toks.length = .ok s' t u) (l : Nat) :
    (∃ d ∈ alwaysDiagsRun toks t, d.name = "LINE_TOO_LONG" ∧ ∃ hl ∈ d.highlights, hl.line = l) ↔
      ∃ tk ∈ toks, tk.line = l ∧ 81 < tk.col := by
  constructor
  · rintro ⟨d, hd, hn, hl, hhl, rfl⟩
    obtain ⟨g, _, ⟨tk, _, _, rfl⟩ | ⟨tk, htk, rfl⟩⟩ := mem_alwaysDiagsRun.mp hd
    · exact absurd hn (show "TERNARY_FBIDDEN" ≠ "LINE_TOO_LONG" by decide)
    · cases List.mem_singleton.mp hhl
      exact ⟨tk, segToks_sub toks g tk (lineLenToks_sound _ _ _ htk).1, rfl, (lineLenToks_sound _ _ _ htk).2⟩
  · rintro ⟨tk, htk, rfl, hc⟩
    obtain ⟨g, hg, hseg⟩ := token_in_some_segment step s s' toks t u h tk htk
    have hl : tk.line ∈ (lineLenToks (segToks toks g) []).map (·.line) := by
      rw [lineLenToks_lines, linelen_iff]
      exact ⟨(tk.line, tk.col), List.mem_map.mpr ⟨tk, hseg, rfl⟩, rfl, hc⟩
    obtain ⟨t', ht', h1⟩ := List.mem_map.mp hl
    exact ⟨_, mem_alwaysDiagsRun.mpr ⟨g, hg, Or.inr ⟨t', ht', rfl⟩⟩, rfl, hlOfToken t', List.mem_singleton.mpr rfl, h1⟩

/-- **From the source text**: lex the file (C09 gives every token its true visual position),
run the engine with any rule table to a verdict: line `l` is reported by `CheckLineLen` iff
some token of the file starts on line `l` at a visual column beyond 81. -/
theorem linelen_source {σ : Type} (u : Uni) (src : List Char) (r : LexResult) (hlex : lex u src = .ok r)
    (step : σ → Nat → StepRes σ) (s s' : σ) (t : List Segment) (uu : List Nat)
    (h : engineRun step 0 s r.tokens.length = .ok s' t uu) (l : Nat) :
    (∃ d ∈ alwaysDiagsRun r.tokens t, d.name = "LINE_TOO_LONG" ∧ ∃ hl ∈ d.highlights, hl.line = l) ↔
      ∃ tk ∈ r.tokens, (visualPos src tk.start).1 = l ∧ 81 < (visualPos src tk.start).2 := by
  rw [linelen_e2e step s s' r.tokens t uu h l]
  refine exists_congr fun tk => and_congr_right fun htk => ?_
  rw [← (C09.token_positions u src r hlex tk htk).1]

/-- **A code line of more than 80 columns that ends in a newline token is reported**, wherever it
is in the file and whatever the rules are: if the file is `pre ++ line ++ "\n" ++ rest` with
`pre` made of complete lines, the newline is a token of its own (it is not inside a comment,
a literal or a splice), and the line is wider than 80, then `LINE_TOO_LONG` is reported on
that line. -/
theorem long_line_reported {σ : Type} (u : Uni) (pre line rest : List Char)
    (hpre : pre = [] ∨ pre.getLast? = some '\n') (hline : ∀ c ∈ line, c ≠ '\n')
    (r : LexResult) (hlex : lex u (pre ++ line ++ '\n' :: rest) = .ok r)
    (tk : Token) (htk : tk ∈ r.tokens) (hstart : tk.start = pre.length + line.length)
    (hw : 80 < lineWidth line)
    (step : σ → Nat → StepRes σ) (s s' : σ) (t : List Segment) (uu : List Nat)
    (h : engineRun step 0 s r.tokens.length = .ok s' t uu) :
    ∃ d ∈ alwaysDiagsRun r.tokens t, d.name = "LINE_TOO_LONG" ∧
      ∃ hl ∈ d.highlights, hl.line = 1 + C19.nlCount pre := by
  have hnl : C19.nlCount line = 0 := by
    unfold C19.nlCount
    exact List.count_eq_zero.mpr (fun hm => hline '\n' hm rfl)
  have hv := newline_column_rest pre line rest hpre
  rw [hnl] at hv
  apply (linelen_source u _ r hlex step s s' t uu h (1 + C19.nlCount pre)).mpr
  refine ⟨tk, htk, ?_, ?_⟩
  · rw [hstart, hv]; simp
  · rw [hstart, hv]; simp only; omega

/-- … and a file all of whose tokens start at or before column 81 gets no `LINE_TOO_LONG` from
`CheckLineLen` on any line. -/
theorem short_lines_silent {σ : Type} (step : σ → Nat → StepRes σ) (s s' : σ) (toks : List Token)
    (t : List Segment) (u : List Nat) (h : engineRun step 0 s toks.length = .ok s' t u)
    (hall : ∀ tk ∈ toks, tk.col ≤ 81) :
    ∀ d ∈ alwaysDiagsRun toks t, d.name ≠ "LINE_TOO_LONG" := by
  intro d hd hn
  obtain ⟨g, _, ⟨tk, _, _, rfl⟩ | ⟨tk, htk, rfl⟩⟩ := mem_alwaysDiagsRun.mp hd
  · exact absurd hn (show "TERNARY_FBIDDEN" ≠ "LINE_TOO_LONG" by decide)
  · have := hall tk (segToks_sub toks g tk (lineLenToks_sound _ _ _ htk).1)
    have := (lineLenToks_sound _ _ _ htk).2
    omega

/-- Non-vacuity at L-1, L, L+1 for each limit. -/
example : lineWidth ("\t".toList ++ List.replicate 76 'a') = 80 ∧ lineWidth ("\t".toList ++ List.replicate 77 'a') = 81 ∧
    checkLineLen [(3, 1), (3, 81), (4, 1), (4, 82), (4, 90)] [] = [4] ∧
    lineCommentTooLong 1 80 = false ∧ lineCommentTooLong 1 81 = true ∧
    blockCommentTooLong 5 [76, 80, 81] = [2] ∧ blockCommentTooLong 5 [77, 3] = [0] ∧
    tooManyLines 26 = false ∧ tooManyLines 27 = true ∧ tooManyFuncs 5 = false ∧ tooManyFuncs 6 = true ∧
    tooManyArgs 3 = false ∧ tooManyArgs 4 = true ∧ tooManyVars 5 = false ∧ tooManyVars 6 = true := by decide +kernel

/-! ### comment lines, end to end (`CheckCommentLineLen` ported completely, Model/Checks.lean) -/

/-- `splitNl` is "the lines of the text": joined by newlines they give the text back, and there is one more of them
than there are newlines -/
theorem splitNl_spec (l : List Char) :
    (splitNl l) ≠ [] ∧ List.intercalate ['\n'] (splitNl l) = l ∧ (splitNl l).length = l.count '\n' + 1 := by
  induction l with
  | nil => simp [splitNl, List.intercalate]
  | cons c cs ih =>
    obtain ⟨hne, hj, hl⟩ := ih
    unfold splitNl
    cases hs : splitNl cs with
    | nil => exact absurd hs hne
    | cons x xs =>
      rw [hs] at hj hl
      by_cases hc : c = '\n'
      · subst hc
        simp only [beq_self_eq_true, ↓reduceIte]
        refine ⟨by simp, ?_, ?_⟩
        · rw [← hj]; simp [List.intercalate]
        · simp only [List.length_cons] at hl ⊢; simp; omega
      · have hb : (c == '\n') = false := by simp [hc]
        simp only [hb, Bool.false_eq_true, ↓reduceIte]
        refine ⟨by simp, ?_, ?_⟩
        · rw [← hj]
          cases xs with
          | nil => simp [List.intercalate]
          | cons y ys => simp [List.intercalate]
        · simp only [List.length_cons] at hl ⊢
          have h1 : ¬ (c = '\n') := hc
          have hcnt : (c :: cs).count '\n' = cs.count '\n' := by
            rw [List.count_cons]; simp [h1]
          rw [hcnt]; omega

/-- **`//` comments, end to end for every rule table**: a statement after which the registry runs
`CheckCommentLineLen` (the regenerated dependency table: `IsComment`) and whose first comment token is a `//` comment
ending beyond column 80 gets LINE_TOO_LONG at that token. -/
theorem line_comment_e2e (toks : List Token) (t : List Segment) (g : Segment) (hg : g ∈ t)
    (hrule : runsAfter "CheckCommentLineLen" g.rule = true) (tk : Token) (v : String)
    (hfind : (toks.drop g.start).find? (fun t => t.type == "COMMENT" || t.type == "MULT_COMMENT") = some tk)
    (hty : tk.type = "COMMENT") (hv : tk.value = some v) (hcol : 1 ≤ tk.col) (hw : 80 < (tk.col - 1) + v.length) :
    tokDiag "LINE_TOO_LONG" tk ∈ commentLenDiagsRun toks t := by
  unfold commentLenDiagsRun
  refine List.mem_flatMap.mpr ⟨g, hg, ?_⟩
  unfold commentLenDiags
  simp only [hrule, ↓reduceIte, hfind, hv]
  have h1 : (tk.type == "MULT_COMMENT") = false := by rw [hty]; decide
  have h2 : lineCommentTooLong tk.col v.length = true := (line_comment_iff tk.col v.length hcol).mpr hw
  simp [h1, h2]

/-- **Block comments, end to end for every rule table**: line `i` of the comment (the first one counted from the column
where the comment starts) is reported — at line `token line + i`, column 1 — iff it is wider than 80 columns. -/
theorem block_comment_e2e (toks : List Token) (t : List Segment) (g : Segment) (hg : g ∈ t)
    (hrule : runsAfter "CheckCommentLineLen" g.rule = true) (tk : Token) (v : String)
    (hfind : (toks.drop g.start).find? (fun t => t.type == "COMMENT" || t.type == "MULT_COMMENT") = some tk)
    (hty : tk.type = "MULT_COMMENT") (hv : tk.value = some v) (first : Nat) (rest : List Nat)
    (hlines : (splitNl v.toList).map List.length = first :: rest) (i w : Nat)
    (hi : ((tk.col - 1 + first) :: rest)[i]? = some w) (hw : 80 < w) :
    mkDiag "LINE_TOO_LONG" .error [⟨tk.line + i, 1, some v.length, none⟩] ∈ commentLenDiagsRun toks t := by
  unfold commentLenDiagsRun
  refine List.mem_flatMap.mpr ⟨g, hg, ?_⟩
  unfold commentLenDiags
  have h1 : (tk.type == "MULT_COMMENT") = true := by rw [hty]; decide
  simp only [hrule, ↓reduceIte, hfind, hv, h1, hlines]
  refine List.mem_map.mpr ⟨i, ?_, rfl⟩
  exact (block_comment_iff tk.col first rest i).mpr ⟨w, hi, hw⟩

/-- … and `CheckCommentLineLen` reports nothing else: every diagnostic it adds is LINE_TOO_LONG for a comment token
that ends beyond column 80, or for a line of a block comment wider than 80 columns. -/
theorem comment_len_sound (toks : List Token) (t : List Segment) (d : Diag) (hd : d ∈ commentLenDiagsRun toks t) :
    d.name = "LINE_TOO_LONG" ∧ ∃ g ∈ t, ∃ tk ∈ toks, ∃ v, tk.value = some v ∧
      ((tk.type ≠ "MULT_COMMENT" ∧ d = tokDiag "LINE_TOO_LONG" tk ∧ 81 < tk.col + v.length) ∨
       (tk.type = "MULT_COMMENT" ∧ ∃ i, d = mkDiag "LINE_TOO_LONG" .error [⟨tk.line + i, 1, some v.length, none⟩] ∧
          i ∈ blockCommentTooLong tk.col ((splitNl v.toList).map List.length))) := by
  unfold commentLenDiagsRun at hd
  obtain ⟨g, hg, hdg⟩ := List.mem_flatMap.mp hd
  unfold commentLenDiags at hdg
  split at hdg
  · split at hdg
    · rename_i tk hfind
      have hmem : tk ∈ toks := List.mem_of_mem_drop (List.mem_of_find?_eq_some hfind)
      split at hdg
      · rename_i v hv
        split at hdg
        · rename_i hty
          obtain ⟨i, hi, rfl⟩ := List.mem_map.mp hdg
          refine ⟨rfl, g, hg, tk, hmem, v, hv, Or.inr ⟨by simpa using hty, i, rfl, hi⟩⟩
        · rename_i hty
          split at hdg
          · rename_i hlong
            simp only [List.mem_singleton] at hdg
            subst hdg
            refine ⟨rfl, g, hg, tk, hmem, v, hv, Or.inl ⟨by simpa using hty, rfl, ?_⟩⟩
            unfold lineCommentTooLong at hlong
            simpa using hlong
          · cases hdg
      · cases hdg
    · cases hdg
  · cases hdg

/-- Non-vacuity: a block comment whose second line is 81 columns wide, and a `//` comment ending in column 81. -/
example :
    let toks : List Token := [⟨"MULT_COMMENT", 3, 1, some ("/*\n" ++ String.ofList (List.replicate 81 'x') ++ "\n*/"), 0, 88⟩, ⟨"NEWLINE", 5, 3, none, 88, 89⟩,
      ⟨"COMMENT", 6, 1, some ("//" ++ String.ofList (List.replicate 79 'y')), 89, 170⟩, ⟨"NEWLINE", 6, 82, none, 170, 171⟩]
    (commentLenDiagsRun toks [⟨"IsComment", 0, 2⟩, ⟨"IsComment", 2, 2⟩]).map (fun d => (d.name, d.highlights.map (fun h => (h.line, h.col))))
      = [("LINE_TOO_LONG", [(4, 1)]), ("LINE_TOO_LONG", [(6, 1)])] ∧ runsAfter "CheckCommentLineLen" "IsComment" = true := by decide +kernel

end Norm.C03
