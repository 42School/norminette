/-
C11 — C literals are classified as C defines them.
Spec/Literals.lean is written from C11 §6.4.4.1 (+ the extensions the property names); the
theorems say what the lexer model does with every constant of that grammar.
-/
import NormModel.Proofs.LiteralsLex
import NormModel.Proofs.IntReport
import NormModel.Proofs.CharString
import NormModel.Proofs.Floats
import NormModel.Proofs.CharEscapes
import NormModel.Proofs.HexFloats
import NormModel.Proofs.StringEscapes
import NormModel.Proofs.BadLiterals
import NormModel.Proofs.BadFloats
namespace Norm.C11
open Norm Spec

/-- every suffix spelling of the specification is in the table regenerated from the source -/
theorem suffix_table_complete : ∀ s ∈ Spec.integerSuffixes, Generated.integerSuffixes.contains s = true :=
  fun s => (suffix_mem_iff s).mpr

theorem render_word (k : IntConst) (hk : k.WF) : ∀ c ∈ k.render, c ∈ wordChars :=
  render_word_shape k hk.shape

/-- **An integer constant of a recognised shape — well-formed or malformed — becomes ONE token spanning it, and the
lexer adds exactly the diagnostics `intReport k`** (`Proofs/IntReport.lean`: INVALID_SUFFIX on a suffix that is not in
the table, then INVALID_OCT_INT / INVALID_BIN_INT with one highlight per digit the base does not allow; nothing for a
well-formed constant). `IntConst.Shape` is `WF` with any suffix-shaped text for suffix and any decimal digits after
`0` / `0b`; digit strings of any length, at any position, whatever follows (within `boundaryOK`). -/
theorem int_token (u : Uni) (k : IntConst) (hk : k.Shape) (rest : List Char) (hb : boundaryOK rest)
    (s : LexSt) (hr : s.rest = k.render ++ rest) :
    ∃ s' t, trySubLexers u s = .ok (some (s', t)) ∧ t.type = "CONSTANT" ∧
      t.value = some (String.ofList k.render) ∧ t.line = s.line ∧ t.col = s.col ∧
      s'.rest = rest ∧ s'.diags = s.diags ++ intReport k s.line s.col :=
  Norm.int_token u k hk rest hb s hr

/-- **A valid integer constant becomes one token spanning the whole constant, with no lexical
diagnostic** — for every base, every digit string of any length, every suffix of the table,
at any position of any file, whatever follows (within `boundaryOK`): the sub-lexer chain of
`get_next_token` returns a `CONSTANT` whose text is exactly the constant, leaves the
continuation unread and adds no diagnostic. -/
theorem int_valid (u : Uni) (k : IntConst) (hk : k.WF) (rest : List Char) (hb : boundaryOK rest)
    (s : LexSt) (hr : s.rest = k.render ++ rest) :
    ∃ s' t, trySubLexers u s = .ok (some (s', t)) ∧ t.type = "CONSTANT" ∧
      t.value = some (String.ofList k.render) ∧ t.line = s.line ∧ t.col = s.col ∧
      s'.rest = rest ∧ s'.diags = s.diags := by
  obtain ⟨s', t, h1, h2, h3, h4, h5, h6, h7⟩ := Norm.int_token u k hk.shape rest hb s hr
  rw [intReport_wf k hk, List.append_nil] at h7
  exact ⟨s', t, h1, h2, h3, h4, h5, h6, h7⟩

/-- **Malformed family "unknown suffix"**: digits that are valid for the base followed by a suffix-shaped text that is
not in the suffix table (`10uu`, `1lul`, `0x1g`, `7_t`, …) — one CONSTANT token spanning everything, and the first
diagnostic added is INVALID_SUFFIX, highlighted on the suffix (its first character, its whole length). -/
theorem int_unknown_suffix_reported (u : Uni) (k : IntConst) (hk : k.Shape) (hsfx : k.suffix ∉ Spec.integerSuffixes)
    (rest : List Char) (hb : boundaryOK rest) (s : LexSt) (hr : s.rest = k.render ++ rest) :
    ∃ s' t ds, trySubLexers u s = .ok (some (s', t)) ∧ t.type = "CONSTANT" ∧
      t.value = some (String.ofList k.render) ∧ s'.rest = rest ∧
      s'.diags = s.diags ++ mkDiag "INVALID_SUFFIX" .error
        [⟨s.line, s.col + k.body.length, some k.suffix.toList.length, none⟩] :: ds := by
  obtain ⟨s', t, h1, h2, h3, _, _, h6, h7⟩ := Norm.int_token u k hk rest hb s hr
  refine ⟨s', t, intDigitReport k s.line s.col, h1, h2, h3, h6, ?_⟩
  rw [h7]
  unfold intReport
  simp only [hsfx, ↓reduceIte, List.cons_append, List.nil_append]

/-- **Malformed family "digit not allowed in its base", octal**: `0` followed by decimal digits at least one of which
is 8 or 9 (`0189`, `08`, `00079u`, …) — one CONSTANT token, and an INVALID_OCT_INT diagnostic with exactly one
one-character highlight per offending digit, at that digit's column, in order (`badDigitHighlights`). -/
theorem int_bad_octal_digit_reported (u : Uni) (k : IntConst) (hk : k.Shape) (hbase : k.base = .oct)
    (hbad : ∃ c ∈ k.digits, isOct c = false)
    (rest : List Char) (hb : boundaryOK rest) (s : LexSt) (hr : s.rest = k.render ++ rest) :
    ∃ s' t, trySubLexers u s = .ok (some (s', t)) ∧ t.type = "CONSTANT" ∧
      t.value = some (String.ofList k.render) ∧ s'.rest = rest ∧
      mkDiag "INVALID_OCT_INT" .error (badDigitHighlights s.line s.col 1 k.digits isOct) ∈ s'.diags ∧
      badDigitHighlights s.line s.col 1 k.digits isOct ≠ [] := by
  obtain ⟨s', t, h1, h2, h3, _, _, h6, h7⟩ := Norm.int_token u k hk rest hb s hr
  have hne := badDigitHighlights_ne_nil s.line s.col 1 k.digits isOct hbad
  refine ⟨s', t, h1, h2, h3, h6, ?_, hne⟩
  rw [h7]
  apply List.mem_append_right
  unfold intReport intDigitReport
  apply List.mem_append_right
  rw [hbase]
  simp only
  unfold digitReport
  have : (badDigitHighlights s.line s.col 1 k.digits isOct).isEmpty = false := by
    cases h : badDigitHighlights s.line s.col 1 k.digits isOct with
    | nil => exact absurd h hne
    | cons _ _ => rfl
  simp [this]

/-- … binary: `0b` / `0B` followed by decimal digits at least one of which is not 0 or 1 (`0b12013`, `0B2`, …). -/
theorem int_bad_binary_digit_reported (u : Uni) (k : IntConst) (hk : k.Shape) (b : Char) (hbase : k.base = .bin b)
    (hbad : ∃ c ∈ k.digits, isBin c = false)
    (rest : List Char) (hb : boundaryOK rest) (s : LexSt) (hr : s.rest = k.render ++ rest) :
    ∃ s' t, trySubLexers u s = .ok (some (s', t)) ∧ t.type = "CONSTANT" ∧
      t.value = some (String.ofList k.render) ∧ s'.rest = rest ∧
      mkDiag "INVALID_BIN_INT" .error (badDigitHighlights s.line s.col 2 k.digits isBin) ∈ s'.diags ∧
      badDigitHighlights s.line s.col 2 k.digits isBin ≠ [] := by
  obtain ⟨s', t, h1, h2, h3, _, _, h6, h7⟩ := Norm.int_token u k hk rest hb s hr
  have hne := badDigitHighlights_ne_nil s.line s.col 2 k.digits isBin hbad
  refine ⟨s', t, h1, h2, h3, h6, ?_, hne⟩
  rw [h7]
  apply List.mem_append_right
  unfold intReport intDigitReport
  apply List.mem_append_right
  rw [hbase]
  simp only
  unfold digitReport
  have : (badDigitHighlights s.line s.col 2 k.digits isBin).isEmpty = false := by
    cases h : badDigitHighlights s.line s.col 2 k.digits isBin with
    | nil => exact absurd h hne
    | cons _ _ => rfl
  simp [this]

/-- Non-vacuity: `0189`, `0b12013` and `10uu` have the shape, are not well-formed in the way the theorems name, and
their expected reports are what the golden files of the test-suite show. -/
example : (⟨.oct, "189".toList, ""⟩ : IntConst).Shape ∧ (∃ c ∈ "189".toList, isOct c = false) ∧
    (intReport ⟨.oct, "189".toList, ""⟩ 1 5).map (fun d => (d.name, d.highlights.map (fun h => (h.line, h.col)))) =
      [("INVALID_OCT_INT", [(1, 7), (1, 8)])] := by
  refine ⟨⟨by decide, ?_⟩, ⟨'8', by decide, by decide⟩, by decide⟩
  intro c hc; revert c; decide
example : (⟨.bin 'b', "12013".toList, ""⟩ : IntConst).Shape ∧ (∃ c ∈ "12013".toList, isBin c = false) ∧
    (intReport ⟨.bin 'b', "12013".toList, ""⟩ 1 1).map (fun d => (d.name, d.highlights.map (fun h => (h.line, h.col)))) =
      [("INVALID_BIN_INT", [(1, 4), (1, 7)])] := by
  refine ⟨⟨by decide, Or.inl rfl, by decide, ?_⟩, ⟨'2', by decide, by decide⟩, by decide⟩
  intro c hc; revert c; decide
example : (⟨.dec, "10".toList, "uu"⟩ : IntConst).Shape ∧ "uu" ∉ Spec.integerSuffixes ∧
    (intReport ⟨.dec, "10".toList, "uu"⟩ 3 9).map (fun d => (d.name, d.highlights.map (fun h => (h.line, h.col, h.length)))) =
      [("INVALID_SUFFIX", [(3, 11, some 2)])] := by
  refine ⟨⟨by decide, '1', ['0'], rfl, by decide, ?_⟩, by decide, by decide⟩
  intro c hc; revert c; decide

/-- every floating suffix of the standard is in the table regenerated from the source -/
theorem float_suffix_table_complete : ∀ s ∈ Spec.floatSuffixes, Generated.floatSuffixes.contains s = true :=
  fun s h => (fsuffix_tbl s h).1

/-- **A well-formed decimal floating constant** — `D+ Exp`, `D* . D+ Exp?` or `D+ . Exp?` with digit
strings of any length, either exponent letter, either sign or none, every suffix of the standard —
**becomes one CONSTANT token spanning exactly the constant, with no lexical diagnostic**, at any
position, whatever follows (within `boundaryOK`). -/
theorem float_valid (u : Uni) (k : DecFloat) (hk : k.WF) (rest : List Char) (hb : boundaryOK rest)
    (s : LexSt) (hr : s.rest = k.render ++ rest) :
    ∃ s' t, trySubLexers u s = .ok (some (s', t)) ∧ t.type = "CONSTANT" ∧
      t.value = some (String.ofList k.render) ∧ t.line = s.line ∧ t.col = s.col ∧
      s'.rest = rest ∧ s'.diags = s.diags :=
  Norm.float_valid u k hk rest hb s hr

/-- Non-vacuity: `1.5e-3f`, `.25`, `10.`, `6E23L`. -/
example : DecFloat.WF (.frac "1".toList "5".toList (some ⟨'e', some '-', "3".toList⟩) "f") ∧
    DecFloat.WF (.frac [] "25".toList none "") ∧ DecFloat.WF (.frac "10".toList [] none "") ∧
    DecFloat.WF (.exp "6".toList ⟨'E', none, "23".toList⟩ "L") ∧
    DecFloat.render (.frac "1".toList "5".toList (some ⟨'e', some '-', "3".toList⟩) "f") = "1.5e-3f".toList := by
  refine ⟨?_, ?_, ?_, ?_, by decide⟩
  · refine ⟨Or.inl (by decide), by decide, by decide, ?_, by decide⟩
    intro y hy
    simp only [Option.some.injEq] at hy
    subst hy
    exact ⟨Or.inl rfl, (by intro s hs; simp at hs; subst hs; exact Or.inr rfl), by decide, by decide⟩
  · exact ⟨Or.inr (by decide), by decide, by decide, (by intro y hy; cases hy), by decide⟩
  · exact ⟨Or.inl (by decide), by decide, by decide, (by intro y hy; cases hy), by decide⟩
  · exact ⟨by decide, by decide, ⟨Or.inr rfl, (by intro s hs; cases hs), by decide, by decide⟩, by decide⟩

/-- **A well-formed hexadecimal floating constant** — `0x`/`0X`, `H+`, `H+.`, `H*.H+`, the mandatory binary exponent
`[pP][+-]?D+`, every suffix of the standard (an `f`/`F` suffix is itself a hexadecimal digit: the code reads it into the
exponent group, the token is the same) — **becomes one CONSTANT token spanning exactly the constant, with no lexical
diagnostic**, at any position, whatever follows (within `boundaryOK`). -/
theorem hexfloat_valid (u : Uni) (k : HexFloat) (hk : k.WF) (rest : List Char) (hb : boundaryOK rest)
    (s : LexSt) (hr : s.rest = k.render ++ rest) :
    ∃ s' t, trySubLexers u s = .ok (some (s', t)) ∧ t.type = "CONSTANT" ∧
      t.value = some (String.ofList k.render) ∧ t.line = s.line ∧ t.col = s.col ∧
      s'.rest = rest ∧ s'.diags = s.diags :=
  Norm.hexfloat_valid u k hk rest hb s hr

/-- Non-vacuity: `0x1.8p-3f`, `0X.fP2`, `0xAp10L`; and the malformed sibling `0x1p` gets BAD_EXPONENT (ed0ba8c). -/
example : HexFloat.WF ⟨'x', "1".toList, some "8".toList, ⟨'p', some '-', "3".toList⟩, "f"⟩ ∧
    HexFloat.WF ⟨'X', [], some "f".toList, ⟨'P', none, "2".toList⟩, ""⟩ ∧
    HexFloat.WF ⟨'x', "A".toList, none, ⟨'p', none, "10".toList⟩, "L"⟩ ∧
    HexFloat.render ⟨'x', "1".toList, some "8".toList, ⟨'p', some '-', "3".toList⟩, "f"⟩ = "0x1.8p-3f".toList ∧
    ((lex {} "0x1p".toList).toOption.map (fun r => r.diags.map (·.name))) = some ["BAD_EXPONENT"] := by
  refine ⟨⟨Or.inl rfl, by decide, ⟨by decide, Or.inl (by decide)⟩, ⟨Or.inl rfl, ?_, by decide, by decide⟩, by decide⟩,
    ⟨Or.inr rfl, by decide, ⟨by decide, Or.inr (by decide)⟩, ⟨Or.inr rfl, ?_, by decide, by decide⟩, by decide⟩,
    ⟨Or.inl rfl, by decide, (by show "A".toList ≠ []; decide), ⟨Or.inl rfl, ?_, by decide, by decide⟩, by decide⟩, by decide, by decide +kernel⟩
  · intro s hs; simp at hs; subst hs; exact Or.inr rfl
  · intro s hs; cases hs
  · intro s hs; cases hs

/-- **A character constant `pre ' c '`** (pre ∈ {"", L, u, U, u8}; c any character other than the
quote, the backslash, newline and tab) **becomes one CHAR_CONST token spanning exactly the
constant, with no lexical diagnostic**, at any position, whatever follows. -/
theorem char_valid (u : Uni) (pre : String) (hp : pre ∈ litPrefixes) (c : Char)
    (hc : c ≠ '\'' ∧ c ≠ '\\' ∧ c ≠ '\n' ∧ c ≠ '\t') (rest : List Char) (s : LexSt)
    (hr : s.rest = pre.toList ++ '\'' :: c :: '\'' :: rest) :
    ∃ s' t, trySubLexers u s = .ok (some (s', t)) ∧ t.type = "CHAR_CONST" ∧
      t.value = some (String.ofList (pre.toList ++ ['\'', c, '\''])) ∧ t.line = s.line ∧ t.col = s.col ∧
      s'.rest = rest ∧ s'.diags = s.diags :=
  Norm.char_valid u pre hp c hc rest s hr

/-- … and likewise when the character is a simple escape sequence (`\n \t \\ \' \" \? \a \b \e \f \r \v`). -/
theorem char_escape_valid (u : Uni) (pre : String) (hp : pre ∈ litPrefixes) (e : Char)
    (he : simpleEscapes.contains e = true) (rest : List Char) (s : LexSt)
    (hr : s.rest = pre.toList ++ '\'' :: '\\' :: e :: '\'' :: rest) :
    ∃ s' t, trySubLexers u s = .ok (some (s', t)) ∧ t.type = "CHAR_CONST" ∧
      t.value = some (String.ofList (pre.toList ++ ['\'', '\\', e, '\''])) ∧ t.line = s.line ∧ t.col = s.col ∧
      s'.rest = rest ∧ s'.diags = s.diags :=
  Norm.char_escape_valid u pre hp e he rest s hr

/-- … an **octal escape sequence** (`'\0'`, `'\12'`, `'\177'`): one CHAR_CONST token spanning exactly the constant, no
lexical diagnostic. (Like the code, the statement takes every octal digit that follows; C takes three at most and reads
a fourth one as a second character.) -/
theorem char_octal_valid (u : Uni) (pre : String) (hp : pre ∈ litPrefixes) (ds : List Char) (hne : ds ≠ [])
    (hd : ∀ c ∈ ds, isOctal c = true) (rest : List Char) (s : LexSt)
    (hr : s.rest = pre.toList ++ '\'' :: '\\' :: (ds ++ '\'' :: rest)) :
    ∃ s' t, trySubLexers u s = .ok (some (s', t)) ∧ t.type = "CHAR_CONST" ∧
      t.value = some (String.ofList (pre.toList ++ '\'' :: '\\' :: (ds ++ ['\'']))) ∧ t.line = s.line ∧ t.col = s.col ∧
      s'.rest = rest ∧ s'.diags = s.diags :=
  Norm.char_octal_valid u pre hp ds hne hd rest s hr

/-- … a **hexadecimal escape sequence with any number of digits** (`'\x41'`, `'\x041'`, `L'\x1234'`): one CHAR_CONST
token spanning exactly the constant, no lexical diagnostic. (The pinned code took two digits at most: 6443d9c.) -/
theorem char_hex_valid (u : Uni) (pre : String) (hp : pre ∈ litPrefixes) (ds : List Char) (hne : ds ≠ [])
    (hd : ∀ c ∈ ds, isHexDigit c = true) (rest : List Char) (s : LexSt)
    (hr : s.rest = pre.toList ++ '\'' :: '\\' :: ('x' :: ds ++ '\'' :: rest)) :
    ∃ s' t, trySubLexers u s = .ok (some (s', t)) ∧ t.type = "CHAR_CONST" ∧
      t.value = some (String.ofList (pre.toList ++ '\'' :: '\\' :: ('x' :: ds ++ ['\'']))) ∧ t.line = s.line ∧ t.col = s.col ∧
      s'.rest = rest ∧ s'.diags = s.diags :=
  Norm.char_hex_valid u pre hp ds hne hd rest s hr

/-- Non-vacuity: the digits of `\x041` and `\177`. -/
example : (∀ c ∈ "041".toList, isHexDigit c = true) ∧ (∀ c ∈ "177".toList, isOctal c = true) ∧
    ((lex {} "L'\\x1234' '\\x041'".toList).toOption.map (fun r => (r.tokens.map (·.type), r.diags.length))) =
      some (["CHAR_CONST", "SPACE", "CHAR_CONST"], 0) := by
  decide +kernel

/-- **A string literal `pre " body "`** whose body (of any length) consists of characters other than
the quote, the backslash, newline, tab and the digraph/trigraph starters **becomes one STRING
token spanning exactly the literal, with no lexical diagnostic**, at any position, whatever follows. -/
theorem string_valid (u : Uni) (pre : String) (hp : pre ∈ litPrefixes) (body : List Char)
    (hb : ∀ c ∈ body, OpaqueChar c ∧ c ≠ '"') (rest : List Char) (s : LexSt)
    (hr : s.rest = pre.toList ++ '"' :: (body ++ '"' :: rest)) :
    ∃ s' t, trySubLexers u s = .ok (some (s', t)) ∧ t.type = "STRING" ∧
      t.value = some (String.ofList (pre.toList ++ '"' :: (body ++ ['"']))) ∧ t.line = s.line ∧ t.col = s.col ∧
      s'.rest = rest ∧ s'.diags = s.diags :=
  Norm.string_valid u pre hp body hb rest s hr

/-- **A string literal whose body mixes plain characters and escape sequences** (`SUnit`: plain character, simple
escape other than `\?`, octal escape, hexadecimal escape with any number of digits; an octal/hexadecimal escape is
not directly followed by a digit of its class) **becomes one STRING token spanning exactly the literal, with no lexical
diagnostic** — any number of elements, every encoding prefix, at any position, whatever follows. -/
theorem string_units_valid (u : Uni) (pre : String) (hp : pre ∈ litPrefixes) (xs : List SUnit) (hxs : UnitsOK xs)
    (rest : List Char) (s : LexSt) (hr : s.rest = pre.toList ++ '"' :: (renderAll xs ++ '"' :: rest)) :
    ∃ s' t, trySubLexers u s = .ok (some (s', t)) ∧ t.type = "STRING" ∧
      t.value = some (String.ofList (pre.toList ++ '"' :: (renderAll xs ++ ['"']))) ∧ t.line = s.line ∧ t.col = s.col ∧
      s'.rest = rest ∧ s'.diags = s.diags :=
  Norm.string_units_valid u pre hp xs hxs rest s hr

/-- Non-vacuity: the body of `"a\tb\101z\x41;"`. -/
example : renderAll [.plain 'a', .simple 't', .plain 'b', .octal "101".toList, .plain 'z', .hex "41".toList, .plain ';'] =
      "a\\tb\\101z\\x41;".toList ∧
    UnitsOK [.plain 'a', .simple 't', .plain 'b', .octal "101".toList, .plain 'z', .hex "41".toList, .plain ';'] := by
  refine ⟨by decide, ?_⟩
  refine ⟨⟨?_, by decide⟩, ⟨by decide, by decide⟩, ⟨?_, by decide⟩, ⟨by decide, by decide, by decide⟩, ⟨?_, by decide⟩,
    ⟨by decide, by decide, by decide⟩, ⟨?_, by decide⟩, trivial⟩ <;> (unfold OpaqueChar plainChar; decide)

/-- Non-vacuity: `L'x'`, `'\n'`, `u8"hi there"`. -/
example : ("L" ∈ litPrefixes) ∧ ("u8" ∈ litPrefixes) ∧ simpleEscapes.contains 'n' = true ∧
    (∀ c ∈ "hi there".toList, OpaqueChar c ∧ c ≠ '"') := by
  refine ⟨by decide, by decide, by decide, ?_⟩
  intro c hc
  simp at hc
  rcases hc with rfl | rfl | rfl | rfl | rfl | rfl | rfl | rfl <;> (unfold OpaqueChar plainChar; decide)

/-- Non-vacuity and the former defect: `0xb3ba`, binary, octal zero, all-caps suffix. -/
example : IntConst.WF ⟨.hex 'x', "b3ba".toList, "UL"⟩ ∧ IntConst.WF ⟨.bin 'B', "101".toList, ""⟩ ∧
    IntConst.WF ⟨.oct, [], "u"⟩ ∧ IntConst.WF ⟨.dec, "42".toList, "i64U"⟩ := by
  refine ⟨⟨by decide, by decide, by decide, by decide⟩, ⟨by decide, by decide, by decide, by decide⟩,
    ⟨by decide, by decide⟩, ⟨by decide, '4', ['2'], rfl, by decide, by decide⟩⟩

/-- Malformed families (closed witnesses; the families themselves are compared with the
implementation by the `literal` correspondence): digit not allowed in its base, unknown
suffix, sign glued to an `e`-ending hex constant, exponent without digits, several dots. -/
example : ((lex {} "089".toList).toOption.map (fun r => r.diags.map (·.name))) = some ["INVALID_OCT_INT"] ∧
    ((lex {} "0b102".toList).toOption.map (fun r => r.diags.map (·.name))) = some ["INVALID_BIN_INT"] ∧
    ((lex {} "10uu".toList).toOption.map (fun r => r.diags.map (·.name))) = some ["INVALID_SUFFIX"] ∧
    ((lex {} "0x1e+3".toList).toOption.map (fun r => r.diags.map (·.name))) = some ["MAXIMAL_MUNCH"] ∧
    ((lex {} "1e+".toList).toOption.map (fun r => r.diags.map (·.name))) = some ["BAD_EXPONENT"] ∧
    ((lex {} "1.2.3".toList).toOption.map (fun r => r.diags.map (·.name))) = some ["MULTIPLE_DOTS"] ∧
    ((lex {} "''".toList).toOption.map (fun r => r.diags.map (·.name))) = some ["EMPTY_CHAR"] := by
  decide +kernel

/-! ### malformed character constants and strings (`Proofs/BadLiterals.lean`) -/

/-- **Malformed family "empty character constant"** `pre ''` (every encoding prefix, at any position, whatever
follows): one CHAR_CONST token spanning it, and exactly one diagnostic added, EMPTY_CHAR over the token. -/
theorem empty_char_reported (u : Uni) (pre : String) (hp : pre ∈ litPrefixes) (rest : List Char) (s : LexSt)
    (hr : s.rest = pre.toList ++ '\'' :: '\'' :: rest) :
    ∃ s' t, trySubLexers u s = .ok (some (s', t)) ∧ t.type = "CHAR_CONST" ∧
      t.value = some (String.ofList (pre.toList ++ ['\'', '\''])) ∧ t.line = s.line ∧ t.col = s.col ∧
      s'.rest = rest ∧
      s'.diags = s.diags ++ [mkDiag "EMPTY_CHAR" .error [⟨s.line, s.col, some (pre.toList ++ ['\'', '\'']).length, none⟩]] :=
  Norm.empty_char_reported u pre hp rest s hr

/-- **Malformed family "unterminated character constant", end of file**: `pre ' body` and nothing more (body: any
number of opaque characters other than the quote, possibly none) — one CHAR_CONST token spanning everything, and
exactly UNEXPECTED_EOF_CHR over the token. -/
theorem char_eof_reported (u : Uni) (pre : String) (hp : pre ∈ litPrefixes) (body : List Char)
    (hb : ∀ c ∈ body, OpaqueChar c ∧ c ≠ '\'') (s : LexSt) (hr : s.rest = pre.toList ++ '\'' :: body) :
    ∃ s' t, trySubLexers u s = .ok (some (s', t)) ∧ t.type = "CHAR_CONST" ∧
      t.value = some (String.ofList (pre.toList ++ '\'' :: body)) ∧ t.line = s.line ∧ t.col = s.col ∧
      s'.rest = [] ∧
      s'.diags = s.diags ++ [mkDiag "UNEXPECTED_EOF_CHR" .error
        [⟨s.line, s.col, some (pre.toList ++ '\'' :: body).length, none⟩]] :=
  Norm.char_eof_reported u pre hp body hb s hr

/-- **… end of line**: `pre ' body` directly followed by a newline — one CHAR_CONST token spanning the text up to the
newline, which stays unread (the line structure of the file survives), and exactly UNEXPECTED_EOL_CHR: the token, and
the place where the closing quote is missing. -/
theorem char_eol_reported (u : Uni) (pre : String) (hp : pre ∈ litPrefixes) (body : List Char)
    (hb : ∀ c ∈ body, OpaqueChar c ∧ c ≠ '\'') (rest : List Char) (s : LexSt)
    (hr : s.rest = pre.toList ++ '\'' :: (body ++ '\n' :: rest)) :
    ∃ s' t, trySubLexers u s = .ok (some (s', t)) ∧ t.type = "CHAR_CONST" ∧
      t.value = some (String.ofList (pre.toList ++ '\'' :: body)) ∧ t.line = s.line ∧ t.col = s.col ∧
      s'.rest = '\n' :: rest ∧
      s'.diags = s.diags ++ [mkDiag "UNEXPECTED_EOL_CHR" .error
        [⟨s.line, s.col, some (pre.toList ++ '\'' :: body).length, none⟩,
         ⟨s.line, s.col + (pre.toList ++ '\'' :: body).length, some 1, some charHint⟩]] :=
  Norm.char_eol_reported u pre hp body hb rest s hr

/-- **Malformed family "unterminated string"**: `pre " body` and nothing more — one STRING token spanning everything,
and exactly UNEXPECTED_EOF_STR: the token, and the place where the closing quote is missing. -/
theorem string_eof_reported (u : Uni) (pre : String) (hp : pre ∈ litPrefixes) (body : List Char)
    (hb : ∀ c ∈ body, OpaqueChar c ∧ c ≠ '"') (s : LexSt) (hr : s.rest = pre.toList ++ '"' :: body) :
    ∃ s' t, trySubLexers u s = .ok (some (s', t)) ∧ t.type = "STRING" ∧
      t.value = some (String.ofList (pre.toList ++ '"' :: body)) ∧ t.line = s.line ∧ t.col = s.col ∧
      s'.rest = [] ∧
      s'.diags = s.diags ++ [mkDiag "UNEXPECTED_EOF_STR" .error
        [⟨s.line, s.col, some (pre.toList ++ '"' :: body).length, none⟩,
         ⟨s.line, s.col + (pre.toList ++ '"' :: body).length, some 1, some strHint⟩]] :=
  Norm.string_eof_reported u pre hp body hb s hr

/-- Non-vacuity: the hypotheses hold for `L'ab`, and the whole lexer agrees on `x = 'ab` + newline and `"abc`. -/
example : ("L" ∈ litPrefixes) ∧ (∀ c ∈ "ab".toList, OpaqueChar c ∧ c ≠ '\'') := by
  refine ⟨by decide, ?_⟩
  intro c hc
  have : c = 'a' ∨ c = 'b' := by simpa using hc
  rcases this with rfl | rfl <;> (unfold OpaqueChar plainChar; decide)
example : (lex {} "x = 'ab\ny = \"abc".toList).toOption.map
      (fun r => (r.tokens.map (fun t => (t.type, t.line, t.col)), r.diags.map (fun d => (d.name, d.highlights.map (fun h => (h.line, h.col))))))
    = some ([("IDENTIFIER", 1, 1), ("SPACE", 1, 2), ("ASSIGN", 1, 3), ("SPACE", 1, 4), ("CHAR_CONST", 1, 5), ("NEWLINE", 1, 8),
             ("IDENTIFIER", 2, 1), ("SPACE", 2, 2), ("ASSIGN", 2, 3), ("SPACE", 2, 4), ("STRING", 2, 5)],
            [("UNEXPECTED_EOL_CHR", [(1, 5), (1, 8)]), ("UNEXPECTED_EOF_STR", [(2, 5), (2, 9)])]) := by decide +kernel

/-! ### malformed floating constants (`Proofs/BadFloats.lean`) -/

/-- **Malformed family "exponent without digits"**: `D+ [eE][+-]?`, `D*.D+ [eE][+-]?`, `D+. [eE][+-]?` (digit strings
of any length, either letter, either sign or none, every floating suffix of the standard) where nothing follows that
could continue the exponent — `1e`, `1e+`, `1.5e-`, `.5E`, `1.e+f` —: one CONSTANT token spanning the whole text, and
exactly one diagnostic added, BAD_EXPONENT, highlighted from the exponent letter to the end of the constant. -/
theorem bad_exponent_reported (u : Uni) (k : BadExpFloat) (hk : k.WF) (rest : List Char) (hb : boundaryOK rest)
    (s : LexSt) (hr : s.rest = k.render ++ rest) :
    ∃ s' t, trySubLexers u s = .ok (some (s', t)) ∧ t.type = "CONSTANT" ∧
      t.value = some (String.ofList k.render) ∧ t.line = s.line ∧ t.col = s.col ∧
      s'.rest = rest ∧
      s'.diags = s.diags ++ [mkDiag "BAD_EXPONENT" .error
        [⟨s.line, s.col + k.mant.length, some (k.x.render.length + k.sfx.toList.length), none⟩]] :=
  Norm.bad_exponent_reported u k hk rest hb s hr

/-- Non-vacuity: `1.5e-` is a member, and the whole lexer reports it where the theorem says. -/
example : (BadExpFloat.frac "1".toList "5".toList ⟨'e', some '-'⟩ "").WF ∧
    (BadExpFloat.frac "1".toList "5".toList ⟨'e', some '-'⟩ "").render = "1.5e-".toList := by
  refine ⟨⟨Or.inl (by decide), by decide, by decide, ⟨Or.inl rfl, ?_⟩, by decide⟩, by decide⟩
  intro s hs; simp at hs; subst hs; exact Or.inr rfl
example : (lex {} "x = 1.5e-;".toList).toOption.map
      (fun r => (r.tokens.map (fun t => (t.type, t.col)), r.diags.map (fun d => (d.name, d.highlights.map (fun h => (h.line, h.col))))))
    = some ([("IDENTIFIER", 1), ("SPACE", 2), ("ASSIGN", 3), ("SPACE", 4), ("CONSTANT", 5), ("SEMI_COLON", 10)],
            [("BAD_EXPONENT", [(1, 8)])]) := by decide +kernel

/-- **Malformed family "several dots"**: `D*.D*` (at least one digit) directly followed by another dot and any run of
letters, digits, underscores and dots — `1.2.3`, `1..5`, `.5.`, `3.14.15f` —: one CONSTANT token spanning the whole
text, and exactly one diagnostic added, MULTIPLE_DOTS, highlighted from the second dot to the end of the token. -/
theorem multiple_dots_reported (u : Uni) (ip fp more : List Char) (hne : ip ≠ [] ∨ fp ≠ [])
    (hip : ∀ c ∈ ip, c ∈ decDigits) (hfp : ∀ c ∈ fp, c ∈ decDigits) (hmore : ∀ c ∈ more, c ∈ wordChars ∨ c = '.')
    (rest : List Char) (hb : boundaryOK rest) (s : LexSt) (hr : s.rest = ip ++ '.' :: fp ++ '.' :: more ++ rest) :
    ∃ s' t, trySubLexers u s = .ok (some (s', t)) ∧ t.type = "CONSTANT" ∧
      t.value = some (String.ofList (ip ++ '.' :: fp ++ '.' :: more)) ∧ t.line = s.line ∧ t.col = s.col ∧
      s'.rest = rest ∧
      s'.diags = s.diags ++ [mkDiag "MULTIPLE_DOTS" .error
        [⟨s.line, s.col + (ip ++ '.' :: fp).length, some ('.' :: more).length, none⟩]] :=
  Norm.multiple_dots_reported u ip fp more hne hip hfp hmore rest hb s hr

/-- Non-vacuity: `1.2.3` through the whole lexer. -/
example : (lex {} "x = 1.2.3;".toList).toOption.map
      (fun r => (r.tokens.map (fun t => (t.type, t.col)), r.diags.map (fun d => (d.name, d.highlights.map (fun h => (h.line, h.col))))))
    = some ([("IDENTIFIER", 1), ("SPACE", 2), ("ASSIGN", 3), ("SPACE", 4), ("CONSTANT", 5), ("SEMI_COLON", 10)],
            [("MULTIPLE_DOTS", [(1, 8)])]) := by decide +kernel

/-- **Malformed family "exponent without digits", hexadecimal**: `0[xX]`, a hexadecimal mantissa (digits on at least one
side of an optional dot), `[pP][+-]?` and `l`/`L` or nothing — `0x1p`, `0x1.8p+`, `0X.8P-l` —: one CONSTANT token and
exactly one diagnostic added, BAD_EXPONENT from the exponent letter to the end of the constant. (Before the repair
ed0ba8c in /repo such a constant was accepted silently; stating `hexfloat_valid` had exposed it.) -/
theorem bad_hex_exponent_reported (u : Uni) (k : BadHexFloat) (hk : k.WF) (rest : List Char) (hb : boundaryOK rest)
    (s : LexSt) (hr : s.rest = k.render ++ rest) :
    ∃ s' t, trySubLexers u s = .ok (some (s', t)) ∧ t.type = "CONSTANT" ∧
      t.value = some (String.ofList k.render) ∧ t.line = s.line ∧ t.col = s.col ∧
      s'.rest = rest ∧
      s'.diags = s.diags ++ [mkDiag "BAD_EXPONENT" .error
        [⟨s.line, s.col + ('0' :: k.x :: k.mant).length, some (k.exp.length + k.sfx.toList.length), none⟩]] :=
  Norm.bad_hex_exponent_reported u k hk rest hb s hr

/-- Non-vacuity: `0x1.8p+` is a member and the whole lexer reports it at the `p`. -/
example : (BadHexFloat.mk 'x' "1".toList (some "8".toList) 'p' (some '+') "").WF ∧
    (BadHexFloat.mk 'x' "1".toList (some "8".toList) 'p' (some '+') "").render = "0x1.8p+".toList := by
  refine ⟨⟨Or.inl rfl, by decide, ⟨by decide, Or.inl (by decide)⟩, Or.inl rfl, ?_, Or.inl rfl⟩, by decide⟩
  intro s hs; simp at hs; subst hs; exact Or.inl rfl
example : (lex {} "x = 0x1.8p+;".toList).toOption.map
      (fun r => (r.tokens.map (fun t => (t.type, t.col)), r.diags.map (fun d => (d.name, d.highlights.map (fun h => (h.line, h.col))))))
    = some ([("IDENTIFIER", 1), ("SPACE", 2), ("ASSIGN", 3), ("SPACE", 4), ("CONSTANT", 5), ("SEMI_COLON", 12)],
            [("BAD_EXPONENT", [(1, 10)])]) := by decide +kernel

/-- **Malformed family "several x"**: a well-formed hexadecimal floating constant with one or more further `x`/`X`
after its `0x` — `0xx1p3`, `0xX.8p-1f` —: one CONSTANT token spanning everything and exactly one diagnostic added,
MULTIPLE_X over the whole run of `x` (it starts one column after the `0`). -/
theorem multiple_x_reported (u : Uni) (k : HexFloat) (hk : k.WF) (extra : List Char) (hne : extra ≠ [])
    (hextra : ∀ c ∈ extra, c = 'x' ∨ c = 'X') (rest : List Char) (hb : boundaryOK rest)
    (s : LexSt) (hr : s.rest = multXRender k extra ++ rest) :
    ∃ s' t, trySubLexers u s = .ok (some (s', t)) ∧ t.type = "CONSTANT" ∧
      t.value = some (String.ofList (multXRender k extra)) ∧ t.line = s.line ∧ t.col = s.col ∧
      s'.rest = rest ∧
      s'.diags = s.diags ++ [mkDiag "MULTIPLE_X" .error [⟨s.line, s.col + 1, some (extra.length + 1), none⟩]] :=
  Norm.multiple_x_reported u k hk extra hne hextra rest hb s hr

/-- Non-vacuity: `0xX1p3` through the whole lexer. -/
example : (lex {} "y = 0xX1p3;".toList).toOption.map
      (fun r => (r.tokens.map (fun t => (t.type, t.col)), r.diags.map (fun d => (d.name, d.highlights.map (fun h => (h.line, h.col))))))
    = some ([("IDENTIFIER", 1), ("SPACE", 2), ("ASSIGN", 3), ("SPACE", 4), ("CONSTANT", 5), ("SEMI_COLON", 11)],
            [("MULTIPLE_X", [(1, 6)])]) := by decide +kernel

/-- **Malformed family "unknown suffix", floating constants**: a well-formed decimal floating constant whose suffix is
replaced by a suffix-shaped text (letters, digits, underscores, not starting with a digit or `e`/`E`) that the tool's
regenerated table does not hold — `1.5x`, `2e3ff`, `.5_t` —: one CONSTANT token spanning everything and exactly one
diagnostic added, BAD_FLOAT_SUFFIX on the suffix (`off` = where the suffix starts). The tool's table is a superset of the
standard's (`d`, `df`, `fi` …), so "unknown" is relative to that table. -/
theorem bad_float_suffix_reported (u : Uni) (k : DecFloat) (hk : k.BadSfx) (rest : List Char) (hb : boundaryOK rest)
    (s : LexSt) (hr : s.rest = k.render ++ rest) :
    ∃ s' t off, trySubLexers u s = .ok (some (s', t)) ∧ t.type = "CONSTANT" ∧
      t.value = some (String.ofList k.render) ∧ t.line = s.line ∧ t.col = s.col ∧ s'.rest = rest ∧
      off + k.sfxText.length = k.render.length ∧
      s'.diags = s.diags ++ [mkDiag "BAD_FLOAT_SUFFIX" .error [⟨s.line, s.col + off, some k.sfxText.length, none⟩]] :=
  Norm.bad_float_suffix_reported u k hk rest hb s hr

/-- Non-vacuity: `1.5x` is a member; the whole lexer reports it on the `x`. -/
example : (DecFloat.frac "1".toList "5".toList none "x").BadSfx := by
  refine ⟨Or.inl (by decide), by decide, by decide, (by intro y hy; cases hy), by decide, by decide⟩
example : (lex {} "y = 1.5x;".toList).toOption.map
      (fun r => (r.tokens.map (fun t => (t.type, t.col)), r.diags.map (fun d => (d.name, d.highlights.map (fun h => (h.line, h.col))))))
    = some ([("IDENTIFIER", 1), ("SPACE", 2), ("ASSIGN", 3), ("SPACE", 4), ("CONSTANT", 5), ("SEMI_COLON", 9)],
            [("BAD_FLOAT_SUFFIX", [(1, 8)])]) := by decide +kernel

end Norm.C11
