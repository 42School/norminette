/-
C16 — options change the presentation, never the findings.
-/
import NormModel.Properties.C08
import NormModel.Properties.C04
import NormModel.Generated.Cli
import NormModel.Generated.Facts
namespace Norm.C16
open Norm

/-- **Format and colours cannot change the findings** (in the model of `main`'s tail): for
every list of analysed files, the humanized run and the JSON run report the same files, the
same verdicts and the same diagnostics in the same order, and exit with the same status. -/
theorem format_independent (fs : List CliFile) (hnf : firstFatal fs = none) (hh : C04.AllHl fs)
    (hb : ∀ f ∈ fs, basenameOf f.abspath = f.basename) :
    (cliRun .humanized fs).exit = (cliRun .json fs).exit ∧
    ∃ hd jd, (cliRun .humanized fs).printed = .human hd ∧ (cliRun .json fs).printed = .json jd ∧
      projectJson jd = some hd := by
  obtain ⟨hd, hhuman, hrun⟩ := cliRun_human hnf hh
  rw [hrun, cliRun_json hnf]
  refine ⟨rfl, hd, _, rfl, rfl, ?_⟩
  rw [C08.formats_agree _ fun f hf => ?_, hhuman]
  obtain ⟨g, hg, rfl⟩ := List.mem_map.mp hf
  exact hb g hg

/-- the options `main` declares are exactly the ones the model of `main` accounts for -/
theorem options_table : Generated.cliOptions.map (·.1) =
    ["file", "debug", "only_filename", "version", "cfile", "hfile", "filename", "use_gitignore", "format", "no_colors", "R"] := by
  decide +kernel

/-- `main` reads these attributes of the parsed arguments and no others; of them only `debug`
and `R` are handed to the analysis (`Context(file, tokens, debug, args.R)`), `format` and
`no_colors` go to the formatter, the rest select the input -/
theorem args_read : Generated.argsReads = ["R", "cfile", "debug", "file", "filename", "format", "hfile", "no_colors", "use_gitignore"] := rfl

/-- the modules that read an attribute called `debug` (a new reader breaks this) -/
theorem debug_readers_known : Generated.debugReaders =
    ["norminette/__main__.py", "norminette/context.py", "norminette/registry.py",
     "norminette/rules/check_utype_declaration.py", "norminette/rules/is_expression_statement.py"] := rfl

end Norm.C16
