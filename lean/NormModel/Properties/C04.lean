/-
C04 — exit status and per-file verdict agree with the diagnostics.
`cliRun` is the tail of `norminette/__main__.py::main` (per-file loop, formatter, exit).
All statements are for every list of files: any length, any order, with repetitions.
-/
import NormModel.Proofs.Cli
namespace Norm.C04
open Norm

/-- every diagnostic handed to the formatter has a highlight (C08.lexer/rule obligation) -/
def AllHl (fs : List CliFile) : Prop := ∀ f ∈ fs, ∀ d ∈ f.diags, HasHl d

/-- No fatal file ⇒ exactly one verdict entry per file, in order, carrying that file's
base name and the verdict computed from that file's own diagnostics. -/
theorem one_verdict (fs : List CliFile) (hnf : firstFatal fs = none) (hh : AllHl fs) :
    ∃ doc, (cliRun .humanized fs).printed = .human doc ∧
      doc.map (·.basename) = fs.map (·.basename) ∧
      doc.map (·.status) = fs.map (fun f => status f.diags) ∧
      doc.map (fun g => g.diags.length) = fs.map (fun f => f.diags.length) := by
  obtain ⟨doc, hdoc, hrun⟩ := cliRun_human hnf hh
  obtain ⟨h1, h2, h3⟩ := humanDoc_shape hdoc
  simp only [List.map_map] at h1 h2 h3
  exact ⟨doc, by rw [hrun], h1, h2, h3⟩

/-- Same for the JSON format (no highlight needed). -/
theorem one_verdict_json (fs : List CliFile) (hnf : firstFatal fs = none) :
    ∃ doc, (cliRun .json fs).printed = .json doc ∧
      doc.map (·.path) = fs.map (·.abspath) ∧
      doc.map (·.status) = fs.map (fun f => status f.diags) := by
  refine ⟨_, by rw [cliRun_json hnf], ?_, ?_⟩ <;> simp [jsonDoc, List.map_map, CliFile.rep]

/-- A verdict is `OK` iff the file has no Error-level diagnostic (Notices do not count). -/
theorem ok_iff (f : CliFile) : status f.diags = .ok ↔ ∀ d ∈ f.diags, d.level = .notice :=
  status_eq_ok_iff f.diags

/-- No fatal file ⇒ the exit status is 0 iff every file is OK. -/
theorem exit_iff (fmt : Format) (fs : List CliFile) (hnf : firstFatal fs = none) (hh : AllHl fs) :
    (cliRun fmt fs).exit = 0 ↔ ∀ f ∈ fs, status f.diags = .ok := by
  rw [cliRun_exit hnf hh, exitOf_zero_iff]

/-- The exit status never depends on the order of the files nor on repetitions. -/
theorem exit_perm (fmt : Format) (fs gs : List CliFile) (hp : ∀ f, f ∈ fs ↔ f ∈ gs)
    (h1 : firstFatal fs = none) (hh : AllHl fs) :
    (cliRun fmt fs).exit = 0 ↔ (cliRun fmt gs).exit = 0 := by
  have h2 : firstFatal gs = none := by
    rw [firstFatal_none_iff] at h1 ⊢
    intro f hf; exact h1 f ((hp f).mpr hf)
  have hh2 : AllHl gs := fun f hf => hh f ((hp f).mpr hf)
  rw [exit_iff fmt fs h1 hh, exit_iff fmt gs h2 hh2]
  constructor
  · intro h f hf; exact h f ((hp f).mpr hf)
  · intro h f hf; exact h f ((hp f).mp hf)

/-- A fatal parse error: the run prints that file's path with `Error!` and the message,
exits non-zero, and it is the *first* fatal file in the order processed. -/
theorem fatal (fmt : Format) (fs : List CliFile) (p m : String) (h : firstFatal fs = some (p, m)) :
    (cliRun fmt fs).exit = 1 ∧
    (∃ pre f post, fs = pre ++ f :: post ∧ f.path = p ∧ f.outcome = .fatal m ∧
      (∀ g ∈ pre, ∃ ds, g.outcome = .analysed ds)) ∧
    (match (cliRun fmt fs).printed with | .fatal p' m' => p' = p ∧ m' = m | _ => False) := by
  rw [cliRun_fatal h]
  exact ⟨rfl, firstFatal_some h, rfl, rfl⟩

/-- Any fatal file makes the status non-zero. -/
theorem fatal_nonzero (fmt : Format) (fs : List CliFile) (f : CliFile) (m : String)
    (hf : f ∈ fs) (ho : f.outcome = .fatal m) : (cliRun fmt fs).exit = 1 := by
  cases h : firstFatal fs with
  | none =>
    obtain ⟨ds, hds⟩ := (firstFatal_none_iff fs).mp h f hf
    rw [ho] at hds; cases hds
  | some pm => rw [cliRun_fatal (p := pm.1) (m := pm.2) h]

/-- A run that selects no file ends cleanly with status 0. -/
theorem empty (fmt : Format) : (cliRun fmt []).exit = 0 := by
  cases fmt <;> rfl

/-- The exit status is 0 or 1. -/
theorem exit_le_one (fmt : Format) (fs : List CliFile) : (cliRun fmt fs).exit ≤ 1 := by
  unfold cliRun
  split
  · simp
  · split
    · exact exitOf_le_one _
    · split
      · exact exitOf_le_one _
      · simp

/-- Non-vacuity: a run over clean / notice-only / erroneous files. -/
def exClean : CliFile := ⟨"a.c", "a.c", "/x/a.c", .analysed []⟩
def exNotice : CliFile := ⟨"n.c", "n.c", "/x/n.c",
  .analysed [{ name := "GLOBAL_VAR_DETECTED", text := "", level := .notice, highlights := [⟨1, 1, none, none⟩] }]⟩
def exErr : CliFile := ⟨"e.c", "e.c", "/x/e.c",
  .analysed [{ name := "X", text := "", highlights := [⟨1, 1, none, none⟩] }]⟩
example : (cliRun .humanized [exClean, exNotice]).exit = 0 ∧ (cliRun .humanized [exErr, exClean]).exit = 1
    ∧ firstFatal [exClean, exNotice, exErr] = none := by decide

end Norm.C04
