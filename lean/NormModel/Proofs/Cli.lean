/- Helper lemmas for C04 / C15. -/
import NormModel.Model.Cli
import NormModel.Proofs.Reports
namespace Norm

theorem humanDoc_shape {fs : List FileRep} {doc : List ShownFile} (h : humanDoc fs = some doc) :
    doc.map (·.basename) = fs.map (·.basename) ∧
    doc.map (·.status) = fs.map (fun f => status f.diags) ∧
    doc.map (fun g => g.diags.length) = fs.map (fun f => f.diags.length) := by
  unfold humanDoc at h
  rw [allSome_eq_some] at h
  induction fs generalizing doc with
  | nil => cases doc <;> simp_all
  | cons f fs ih =>
    cases doc with
    | nil => simp at h
    | cons g doc =>
      simp only [List.map_cons, List.cons.injEq] at h
      obtain ⟨ih1, ih2, ih3⟩ := ih h.2
      have hg := h.1
      unfold shownFile? at hg
      simp only [Option.map_eq_some_iff] at hg
      obtain ⟨ds, hds, rfl⟩ := hg
      rw [allSome_eq_some] at hds
      have hlen : ds.length = f.diags.length := by
        have := congrArg List.length hds
        simp at this
        rw [← this]
        exact (sortBy_perm Diag.le f.diags).length_eq
      simp [ih1, ih2, ih3, hlen]

theorem humanDoc_some_of_hasHl (fs : List FileRep) (h : ∀ f ∈ fs, ∀ d ∈ f.diags, HasHl d) :
    ∃ doc, humanDoc fs = some doc := by
  unfold humanDoc
  apply allSome_isSome_of
  intro x hx
  obtain ⟨f, hf, rfl⟩ := List.mem_map.mp hx
  unfold shownFile?
  have : ∃ r, allSome ((sortDiags f.diags).map shownDiag?) = some r := by
    apply allSome_isSome_of
    intro y hy
    obtain ⟨d, hd, rfl⟩ := List.mem_map.mp hy
    exact shownDiag?_isSome (h f hf d (mem_sortBy.mp hd))
  obtain ⟨r, hr⟩ := this
  simp [hr]

/-! ### the three ways `cliRun` ends -/

theorem cliRun_fatal {fmt : Format} {fs : List CliFile} {p m : String} (h : firstFatal fs = some (p, m)) :
    cliRun fmt fs = ⟨.fatal p m, 1⟩ := by
  simp only [cliRun, h]

theorem cliRun_json {fs : List CliFile} (h : firstFatal fs = none) :
    cliRun .json fs = ⟨.json (jsonDoc (fs.map CliFile.rep)), exitOf fs⟩ := by
  simp only [cliRun, h]

/-- the humanized run does not crash when every diagnostic has a highlight -/
theorem cliRun_human {fs : List CliFile} (h : firstFatal fs = none) (hh : ∀ f ∈ fs, ∀ d ∈ f.diags, HasHl d) :
    ∃ doc, humanDoc (fs.map CliFile.rep) = some doc ∧ cliRun .humanized fs = ⟨.human doc, exitOf fs⟩ := by
  obtain ⟨doc, hdoc⟩ := humanDoc_some_of_hasHl (fs.map CliFile.rep) fun f hf d hd => by
    obtain ⟨g, hg, rfl⟩ := List.mem_map.mp hf
    exact hh g hg d hd
  exact ⟨doc, hdoc, by simp only [cliRun, h, hdoc]⟩

theorem cliRun_exit {fmt : Format} {fs : List CliFile} (h : firstFatal fs = none)
    (hh : ∀ f ∈ fs, ∀ d ∈ f.diags, HasHl d) : (cliRun fmt fs).exit = exitOf fs := by
  cases fmt
  · obtain ⟨_, _, e⟩ := cliRun_human h hh
    rw [e]
  · rw [cliRun_json h]

theorem firstFatal_none_iff (fs : List CliFile) :
    firstFatal fs = none ↔ ∀ f ∈ fs, ∃ ds, f.outcome = .analysed ds := by
  induction fs with
  | nil => simp [firstFatal]
  | cons f fs ih =>
    unfold firstFatal
    cases h : f.outcome with
    | fatal m => simp [h]
    | analysed ds => simp [h, ih]

theorem firstFatal_some {fs : List CliFile} {p m : String} (h : firstFatal fs = some (p, m)) :
    ∃ pre f post, fs = pre ++ f :: post ∧ f.path = p ∧ f.outcome = .fatal m ∧
      ∀ g ∈ pre, ∃ ds, g.outcome = .analysed ds := by
  induction fs with
  | nil => simp [firstFatal] at h
  | cons f fs ih =>
    unfold firstFatal at h
    cases ho : f.outcome with
    | fatal m' =>
      simp [ho] at h
      exact ⟨[], f, fs, rfl, h.1, by rw [ho, h.2], by simp⟩
    | analysed ds =>
      simp [ho] at h
      obtain ⟨pre, g, post, e, h1, h2, h3⟩ := ih h
      refine ⟨f :: pre, g, post, by simp [e], h1, h2, ?_⟩
      intro x hx
      rcases List.mem_cons.mp hx with rfl | hx
      · exact ⟨ds, ho⟩
      · exact h3 x hx

theorem exitOf_zero_iff (fs : List CliFile) :
    exitOf fs = 0 ↔ ∀ f ∈ fs, status f.diags = .ok := by
  unfold exitOf
  split
  · rename_i h
    simp only [Nat.succ_ne_zero, false_iff]
    intro hall
    obtain ⟨f, hf, hs⟩ := List.any_eq_true.mp h
    have := hall f hf
    simp [this] at hs
  · rename_i h
    simp only [true_iff]
    intro f hf
    cases hs : status f.diags with
    | ok => rfl
    | error =>
      exfalso; apply h
      exact List.any_eq_true.mpr ⟨f, hf, by simp [hs]⟩

theorem exitOf_le_one (fs : List CliFile) : exitOf fs ≤ 1 := by
  unfold exitOf; split <;> omega

end Norm
