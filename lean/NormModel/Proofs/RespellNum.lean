/- Reading equivalence and the numeric matchers: they look at raw characters, but only through classes of
characters that have no alternative spelling, so two texts that read the same give the same match. -/
import NormModel.Proofs.RespellLoops
namespace Norm
open Spec

theorem isW_plain (u : Uni) : ∀ c, u.isW c = true → Plain c := fun _ => .of_isW u
theorem isD_plain (u : Uni) : ∀ c, u.isD c = true → Plain c := fun c h => isW_plain u c (isD_isW u h)
theorem isH_plain (u : Uni) : ∀ c, u.isH c = true → Plain c := fun c h => isW_plain u c (isH_isW u h)

theorem plain_or {p q : Char → Bool} (hp : ∀ c, p c = true → Plain c) (hq : ∀ c, q c = true → Plain c) :
    ∀ c, (p c || q c) = true → Plain c := by
  intro c h
  simp only [Bool.or_eq_true] at h
  rcases h with h | h
  · exact hp c h
  · exact hq c h

theorem plain_eq (k : Char) (hk : Plain k) : ∀ c, (c == k) = true → Plain c := by
  intro c h; have : c = k := by simpa using h
  subst this; exact hk

theorem sign_plain : ∀ c, (c == '+' || c == '-') = true → Plain c :=
  plain_or (plain_eq '+' (by decide)) (plain_eq '-' (by decide))

/-! ### integer constants -/

theorem intSuffix_readEq (u : Uni) (lc : Option Char) {a b : List Char} (h : ReadEq a b) :
    intSuffix u lc a = intSuffix u lc b := by
  unfold intSuffix
  split
  · exact h.takeWhile_eq (plain_or (plain_or (plain_or (isW_plain u) (plain_eq '+' (by decide))) (plain_eq '-' (by decide))) (plain_eq '.' (by decide)))
  · rcases h.head_cases u.isW (isW_plain u) with ⟨c, a', b', rfl, rfl, hc, h1⟩ | ⟨rfl, rfl⟩ | ⟨x, a', y, b', rfl, rfl, hx, hy⟩
    · simp only [hc, ↓reduceIte, h1.takeWhile_eq (plain_or (isW_plain u) (plain_eq '.' (by decide)))]
    · rfl
    · simp only [hx, hy, Bool.false_eq_true, ↓reduceIte]

theorem intFin_readEq (u : Uni) (pre const : List Char) {a b : List Char} (h : ReadEq a b) :
    intFin u pre const a = intFin u pre const b := by
  unfold intFin; rw [intSuffix_readEq u _ h]

theorem isXc_plain : ∀ c, isXc c = true → Plain c := plain_or (plain_eq 'x' (by decide)) (plain_eq 'X' (by decide))
theorem isBc_plain : ∀ c, isBc c = true → Plain c := plain_or (plain_eq 'b' (by decide)) (plain_eq 'B' (by decide))

/-- digits of a base, then the suffix: the shape every alternative of the integer pattern ends in -/
theorem intRun_readEq (u : Uni) (pre : List Char) {p : Char → Bool} (hp : ∀ c, p c = true → Plain c) {a b : List Char}
    (h : ReadEq a b) : intFin u pre (a.takeWhile p) (a.dropWhile p) = intFin u pre (b.takeWhile p) (b.dropWhile p) := by
  rw [h.takeWhile_eq hp, intFin_readEq u _ _ (h.dropWhile hp)]

theorem intAltX_readEq (u : Uni) {a b : List Char} (h : ReadEq a b) : intAltX u a = intAltX u b := by
  unfold intAltX
  rw [h.takeWhile_eq isXc_plain]
  split
  · rfl
  · exact intRun_readEq u _ (isH_plain u) (h.dropWhile isXc_plain)
  · exact intRun_readEq u _ (isD_plain u) (h.dropWhile isXc_plain)

theorem intAltB_readEq (u : Uni) {a b : List Char} (h : ReadEq a b) : intAltB u a = intAltB u b := by
  unfold intAltB
  rw [h.takeWhile_eq isBc_plain]
  split
  · rfl
  · exact intRun_readEq u _ (isD_plain u) (h.dropWhile isBc_plain)

theorem matchInt_readEq (u : Uni) {a b : List Char} (h : ReadEq a b) : matchInt u a = matchInt u b := by
  have h0 := intRun_readEq u [] (isD_plain u) h
  rcases h.head_cases (· == '0') (plain_eq '0' (by decide)) with ⟨c, a', b', rfl, rfl, hc, h1⟩ | ⟨rfl, rfl⟩ | ⟨x, a', y, b', rfl, rfl, hx, hy⟩
  · cases (beq_iff_eq.mp hc : c = '0')
    unfold matchInt
    simp only
    rw [intAltX_readEq u h1, intAltB_readEq u h1, intRun_readEq u _ (isD_plain u) h1, h0]
  · rfl
  · unfold matchInt
    split
    · rename_i heq; cases heq
    · rename_i heq; cases heq; cases hx
    · split
      · rename_i heq; cases heq
      · rename_i heq; cases heq; cases hy
      · exact h0

/-! ### floating constants -/

theorem tailDec_ok (u : Uni) : PTail Plain (tailDec u) :=
  ⟨fun c => c == '.' || u.isD c, plain_or (plain_eq '.' (by decide)) (isD_plain u), fun _ => rfl⟩

theorem tailHex_ok (u : Uni) : PTail Plain (tailHex u) :=
  ⟨fun c => c == '.' || u.isH c, plain_or (plain_eq '.' (by decide)) (isH_plain u), fun _ => rfl⟩

theorem PPrefix.drop_readEq {e a b : List Char} (hp : PPrefix Plain e a) (h : ReadEq a b) :
    ReadEq (a.drop e.length) (b.drop e.length) := by
  obtain ⟨⟨a', rfl⟩, hpl⟩ := hp
  obtain ⟨b', rfl, h1⟩ := h.prefix_plain hpl
  simpa using h1

theorem expIter_readEq (isL : Char → Bool) (hL : ∀ c, isL c = true → Plain c) (tail : List Char → Nat) (ht : PTail Plain tail)
    (fa fb : Nat) (a b : List Char) (hfa : a.length < fa) (hfb : b.length < fb) (h : ReadEq a b) :
    expIter isL tail fa a = expIter isL tail fb b := by
  obtain ⟨q, hq, hqt⟩ := ht
  refine fuel_sim List.length List.length (expIter isL tail) (expIter isL tail) ReadEq Eq ?_ fa fb a b hfa hfb h
  intro fa fb a b h ih
  unfold expIter
  rcases h.head_cases isL hL with ⟨c, a', b', rfl, rfl, hc, h1⟩ | ⟨rfl, rfl⟩ | ⟨x, a', y, b', rfl, rfl, hx, hy⟩
  · simp only [hc, ↓reduceIte]
    -- after the optional sign: the tail is a run of plain characters, then the loop goes on
    have key : ∀ (sign ta tb : List Char), ReadEq ta tb → ta.length ≤ a'.length → tb.length ≤ b'.length →
        c :: sign ++ ta.take (tail ta) ++ expIter isL tail fa (ta.drop (tail ta)) =
        c :: sign ++ tb.take (tail tb) ++ expIter isL tail fb (tb.drop (tail tb)) := by
      intro sign ta tb hr la lb
      rw [hqt ta, hqt tb, take_takeWhile_length, take_takeWhile_length, drop_takeWhile_length, drop_takeWhile_length,
        hr.takeWhile_eq hq, ih _ _ (hr.dropWhile hq)]
      · have := (List.dropWhile_sublist q (l := ta)).length_le; simp only [List.length_cons]; omega
      · have := (List.dropWhile_sublist q (l := tb)).length_le; simp only [List.length_cons]; omega
    rcases h1.head_cases (fun s => s == '+' || s == '-') sign_plain with ⟨s, ra, rb, rfl, rfl, hs, h2⟩ | ⟨rfl, rfl⟩ | ⟨x, ra, y, rb, rfl, rfl, hx, hy⟩
    · simp only [hs, ↓reduceIte]
      exact key [s] ra rb h2 (by simp) (by simp)
    · exact key [] [] [] ReadEq.nil (by simp) (by simp)
    · simp only [hx, hy, Bool.false_eq_true, ↓reduceIte]
      exact key [] _ _ h1 (by simp) (by simp)
  · rfl
  · simp only [hx, hy, Bool.false_eq_true, ↓reduceIte]

theorem matchExp_readEq (isL isD : Char → Bool) (hL : ∀ c, isL c = true → Plain c) (hD : ∀ c, isD c = true → Plain c)
    (tail : List Char → Nat) (ht : PTail Plain tail) {a b : List Char} (h : ReadEq a b) :
    matchExp isL isD tail a = matchExp isL isD tail b := by
  have d1 := h.dropWhile hL
  unfold matchExp spanP
  simp only
  rw [h.takeWhile_eq hL, d1.takeWhile_eq hD, expIter_readEq isL hL tail ht (a.length + 1) (b.length + 1) a b (by omega) (by omega) h]
  split
  · rfl
  · rcases d1.head_cases (fun s => s == '+' || s == '-') sign_plain with ⟨s, ra, rb, ea, eb, hs, h2⟩ | ⟨ea, eb⟩ | ⟨x, ra, y, rb, ea, eb, hx, hy⟩
    · rw [ea, eb]
      simp only [hs, ↓reduceIte, h2.takeWhile_eq hD]
    · rw [ea, eb]
    · rw [ea, eb]
      simp only [hx, hy, Bool.false_eq_true, ↓reduceIte]

theorem floatSuffix_readEq (u : Uni) {a b : List Char} (h : ReadEq a b) : floatSuffix u a = floatSuffix u b :=
  (takeWhile_readEq _ (plain_or (isW_plain u) (plain_eq '.' (by decide))) h).1

theorem isE_plain : ∀ c, isE c = true → Plain c := plain_or (plain_eq 'e' (by decide)) (plain_eq 'E' (by decide))
theorem isP_plain : ∀ c, isP c = true → Plain c := plain_or (plain_eq 'p' (by decide)) (plain_eq 'P' (by decide))

/-- exponent and suffix after the constant: the same in both texts -/
theorem exp_suffix_readEq (u : Uni) (isL isD : Char → Bool) (hL : ∀ c, isL c = true → Plain c) (hD : ∀ c, isD c = true → Plain c)
    (tail : List Char → Nat) (ht : PTail Plain tail) {a b : List Char} (h : ReadEq a b) :
    matchExp isL isD tail a = matchExp isL isD tail b ∧
    floatSuffix u (a.drop (matchExp isL isD tail a).length) = floatSuffix u (b.drop (matchExp isL isD tail a).length) :=
  ⟨matchExp_readEq isL isD hL hD tail ht h,
    floatSuffix_readEq u ((matchExp_pprefix isL isD hL hD sign_plain tail ht a).drop_readEq h)⟩

theorem matchFloatExp_readEq (u : Uni) {a b : List Char} (h : ReadEq a b) : matchFloatExp u a = matchFloatExp u b := by
  unfold matchFloatExp spanP
  simp only
  obtain ⟨e1, e2⟩ := exp_suffix_readEq u isE u.isD isE_plain (isD_plain u) (tailDec u) (tailDec_ok u) (h.dropWhile (isD_plain u))
  rw [h.takeWhile_eq (isD_plain u), e2, e1]

/-- the constant of the fractional pattern, and the text after it -/
def fracConst (u : Uni) (ds after : List Char) : Option (List Char × List Char) :=
  match after with
  | '.' :: r =>
    let fs := r.takeWhile u.isD
    if !fs.isEmpty then some (ds ++ '.' :: fs, r.drop fs.length)
    else if !ds.isEmpty then some (ds ++ ['.'], r)
    else none
  | _ => none

theorem matchFloatFrac_eq (u : Uni) (src : List Char) : matchFloatFrac u src =
    (match fracConst u (src.takeWhile u.isD) (src.dropWhile u.isD) with
    | none => none
    | some (c, rest) =>
      some ⟨.fractional, c, matchExp isE u.isD (tailDec u) rest,
        floatSuffix u (rest.drop (matchExp isE u.isD (tailDec u) rest).length)⟩) := by
  rfl

/-- two optional (text, rest) results: the same text, rests that read the same -/
def PartSim : Option (List Char × List Char) → Option (List Char × List Char) → Prop
  | none, none => True
  | some (c, ra), some (c', rb) => c = c' ∧ ReadEq ra rb
  | _, _ => False

theorem PartSim.cases {x y : Option (List Char × List Char)} (h : PartSim x y) :
    (x = none ∧ y = none) ∨ ∃ c ra rb, x = some (c, ra) ∧ y = some (c, rb) ∧ ReadEq ra rb := by
  cases x with
  | none => cases y with
    | none => exact Or.inl ⟨rfl, rfl⟩
    | some q => exact h.elim
  | some p => cases y with
    | none => exact h.elim
    | some q => exact Or.inr ⟨p.1, p.2, q.2, rfl, by rw [h.1], h.2⟩

theorem fracConst_readEq (u : Uni) (ds : List Char) {a b : List Char} (h : ReadEq a b) :
    PartSim (fracConst u ds a) (fracConst u ds b) := by
  unfold fracConst
  rcases h.head_cases (· == '.') (plain_eq '.' (by decide)) with ⟨c, ra, rb, rfl, rfl, hc, h1⟩ | ⟨rfl, rfl⟩ | ⟨x, ra, y, rb, rfl, rfl, hx, hy⟩
  · cases (beq_iff_eq.mp hc : c = '.')
    simp only
    rw [h1.takeWhile_eq (isD_plain u), drop_takeWhile_length, ← h1.takeWhile_eq (isD_plain u), drop_takeWhile_length]
    split
    · exact ⟨rfl, h1.dropWhile (isD_plain u)⟩
    · split
      · exact ⟨rfl, h1⟩
      · trivial
  · trivial
  · split
    · rename_i heq; cases heq; cases hx
    · split
      · rename_i heq; cases heq; cases hy
      · trivial

/-- exponent and suffix after a constant that the two texts share -/
theorem floatTail_readEq (u : Uni) (k : FloatKind) (c : List Char) (isL isD : Char → Bool) (hL : ∀ c, isL c = true → Plain c)
    (hD : ∀ c, isD c = true → Plain c) (tail : List Char → Nat) (ht : PTail Plain tail) {ra rb : List Char} (hr : ReadEq ra rb) :
    (⟨k, c, matchExp isL isD tail ra, floatSuffix u (ra.drop (matchExp isL isD tail ra).length)⟩ : FloatMatch) =
      ⟨k, c, matchExp isL isD tail rb, floatSuffix u (rb.drop (matchExp isL isD tail rb).length)⟩ := by
  obtain ⟨e1, e2⟩ := exp_suffix_readEq u isL isD hL hD tail ht hr
  rw [e2, e1]

theorem matchFloatFrac_readEq (u : Uni) {a b : List Char} (h : ReadEq a b) : matchFloatFrac u a = matchFloatFrac u b := by
  rw [matchFloatFrac_eq, matchFloatFrac_eq, h.takeWhile_eq (isD_plain u)]
  rcases (fracConst_readEq u (b.takeWhile u.isD) (h.dropWhile (isD_plain u))).cases with ⟨ea, eb⟩ | ⟨c, ra, rb, ea, eb, hr⟩
  · rw [ea, eb]
  · rw [ea, eb]
    simp only
    rw [floatTail_readEq u _ c isE u.isD isE_plain (isD_plain u) (tailDec u) (tailDec_ok u) hr]

theorem hexMantissa_readEq (u : Uni) {a b : List Char} (h : ReadEq a b) :
    PartSim (hexMantissa u a) (hexMantissa u b) := by
  have hH := isH_plain u
  have d1 := h.dropWhile hH
  unfold hexMantissa
  rw [h.takeWhile_eq hH]
  split
  · -- no digit before the point
    rcases h.head_cases (· == '.') (plain_eq '.' (by decide)) with ⟨c, ra, rb, rfl, rfl, hc, h1⟩ | ⟨rfl, rfl⟩ | ⟨x, ra, y, rb, rfl, rfl, hx, hy⟩
    · cases (beq_iff_eq.mp hc : c = '.')
      simp only
      rw [h1.takeWhile_eq hH]
      split
      · trivial
      · rename_i fs _
        refine ⟨rfl, ?_⟩
        have := h1.dropWhile hH
        rwa [← drop_takeWhile_length, ← drop_takeWhile_length, h1.takeWhile_eq hH] at this
    · trivial
    · split
      · rename_i heq; cases heq; cases hx
      · split
        · rename_i heq; cases heq; cases hy
        · trivial
  · rcases d1.head_cases (· == '.') (plain_eq '.' (by decide)) with ⟨c, ra, rb, ea, eb, hc, h1⟩ | ⟨ea, eb⟩ | ⟨x, ra, y, rb, ea, eb, hx, hy⟩
    · cases (beq_iff_eq.mp hc : c = '.')
      rw [ea, eb]
      exact ⟨by rw [h1.takeWhile_eq hH], h1.dropWhile hH⟩
    · rw [ea, eb]; exact ⟨rfl, ReadEq.nil⟩
    · rw [ea, eb] at d1 ⊢
      split
      · rename_i heq; cases heq; cases hx
      · split
        · rename_i heq; cases heq; cases hy
        · exact ⟨rfl, d1⟩

theorem isx_plain : ∀ c, (c == 'x' || c == 'X') = true → Plain c := plain_or (plain_eq 'x' (by decide)) (plain_eq 'X' (by decide))

theorem matchFloatHex_readEq (u : Uni) {a b : List Char} (h : ReadEq a b) : matchFloatHex u a = matchFloatHex u b := by
  unfold matchFloatHex
  rcases h.head_cases (· == '0') (plain_eq '0' (by decide)) with ⟨c, ta, tb, rfl, rfl, hc, h1⟩ | ⟨rfl, rfl⟩ | ⟨x, ra, y, rb, rfl, rfl, hx, hy⟩
  · cases (beq_iff_eq.mp hc : c = '0')
    simp only
    rw [h1.takeWhile_eq isx_plain]
    split
    · rfl
    · rcases (hexMantissa_readEq u (h1.dropWhile isx_plain)).cases with ⟨ea, eb⟩ | ⟨m, ra, rb, ea, eb, hr⟩
      · rw [ea, eb]
      · rw [ea, eb]
        simp only
        rw [floatTail_readEq u _ _ isP u.isH isP_plain (isH_plain u) (tailHex u) (tailHex_ok u) hr]
  · rfl
  · split
    · rename_i heq; cases heq; cases hx
    · split
      · rename_i heq; cases heq; cases hy
      · rfl

/-- the match of `parse_float_literal`, without the diagnostic (whose position differs) -/
def floatKey : FloatRes → Option FloatMatch
  | .noMatch => none
  | .tok m _ => some m

/-- which match `floatLogic` returns depends on the text only through the match of the three patterns:
line and column enter the diagnostic alone -/
theorem floatKey_readEq (u : Uni) (la ca lb cb : Nat) {a b : List Char} (h : ReadEq a b) :
    floatKey (floatLogic u la ca a) = floatKey (floatLogic u lb cb b) := by
  unfold floatLogic
  rw [matchFloatExp_readEq u h, matchFloatFrac_readEq u h, matchFloatHex_readEq u h]
  simp only
  split
  · rfl
  · simp only [apply_ite floatKey]
    rfl

end Norm
