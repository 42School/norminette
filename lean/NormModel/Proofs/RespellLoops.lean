/- Reading equivalence through the loops of the sub-lexers (identifier, comments, character and string bodies). -/
import NormModel.Proofs.RespellPop
namespace Norm
open Spec

theorem progress_length {s t : LexSt} (h : Progress s t) : t.rest.length < s.rest.length := by
  obtain ⟨n, hn, h1, h2, _⟩ := h
  rw [h2, List.length_drop]; omega

theorem popOne_shrinks (us ue : Bool) (s : LexSt) (cs : List Char) (h : (popOne us ue s).2 = some cs) :
    (popOne us ue s).1.rest.length < s.rest.length :=
  progress_length ((popOne_spec us ue s).1 cs h)

/-- one `pop` (no tab expansion) in two texts that read the same: the same characters, texts left that read the same,
and both shorter when something was popped -/
theorem popOne_sim (ue : Bool) {s t : LexSt} (h : ReadEq s.rest t.rest) :
    ∃ s1 t1 r, popOne false ue s = (s1, r) ∧ popOne false ue t = (t1, r) ∧ ReadEq s1.rest t1.rest ∧
      (r.isSome → s1.rest.length < s.rest.length ∧ t1.rest.length < t.rest.length) := by
  obtain ⟨h1, h2⟩ := popOne_readEq_ff ue s t h
  refine ⟨_, _, _, rfl, Prod.ext rfl h2.symm, h1, fun hr => ?_⟩
  obtain ⟨cs, hcs⟩ := Option.isSome_iff_exists.mp hr
  exact ⟨popOne_shrinks false ue s cs hcs, popOne_shrinks false ue t cs (h2 ▸ hcs)⟩

theorem popN_sim (n : Nat) {s t : LexSt} (h : ReadEq s.rest t.rest) :
    ∃ s1 t1 r, popN n s = (s1, r) ∧ popN n t = (t1, r) ∧ ReadEq s1.rest t1.rest := by
  induction n generalizing s t with
  | zero => exact ⟨s, t, _, rfl, rfl, h⟩
  | succ n ih =>
    obtain ⟨s1, t1, r, ea, eb, h1, _⟩ := popOne_sim false h
    unfold popN
    rw [ea, eb]
    cases r with
    | none => exact ⟨_, _, _, rfl, rfl, h1⟩
    | some cs =>
      obtain ⟨s2, t2, q, ec, ed, h2⟩ := ih h1
      simp only [ec, ed]
      cases q <;> exact ⟨_, _, _, rfl, rfl, h2⟩

theorem idChar_plain : ∀ c, isIdChar c = true → Plain c := fun _ h => .of_word (isIdChar_iff.mp h)

/-- the loops that collect popped characters: state and text so far -/
abbrev LoopSt := LexSt × List Char

/-- same text so far, unread texts that read the same -/
def LoopInv (x y : LoopSt) : Prop := ReadEq x.1.rest y.1.rest ∧ x.2 = y.2

/-- the identifier loop -/
theorem identLoop_readEq (fa fb : Nat) (s t : LexSt) (v : List Char) (hfa : s.rest.length < fa) (hfb : t.rest.length < fb)
    (h : ReadEq s.rest t.rest) :
    (identLoop fa s v).2 = (identLoop fb t v).2 ∧ ReadEq (identLoop fa s v).1.rest (identLoop fb t v).1.rest := by
  refine fuel_sim (σ := LoopSt) (τ := LoopSt) (·.1.rest.length) (·.1.rest.length) (fun n x => identLoop n x.1 x.2)
    (fun n x => identLoop n x.1 x.2) LoopInv (fun r r' => r.2 = r'.2 ∧ ReadEq r.1.rest r'.1.rest) ?_ fa fb (s, v) (t, v) hfa hfb ⟨h, rfl⟩
  rintro fa fb ⟨s, v⟩ ⟨t, _⟩ ⟨h, rfl⟩ ih
  simp only at h ⊢
  unfold identLoop
  rcases h.head_cases isIdChar idChar_plain with ⟨c, a', b', ea, eb, hc, _⟩ | ⟨ea, eb⟩ | ⟨x, a', y, b', ea, eb, hx, hy⟩
  · obtain ⟨s1, t1, r, pa, pb, h1, hl⟩ := popOne_sim false h
    rw [ea, eb]
    simp only [hc, ↓reduceIte, pa, pb]
    cases r with
    | none => exact ⟨rfl, h1⟩
    | some ch => exact ih (s1, v ++ ch) (t1, v ++ ch) ⟨h1, rfl⟩ (hl rfl).1 (hl rfl).2
  · rw [ea, eb]; exact ⟨rfl, h⟩
  · rw [ea, eb]
    simp only [hx, hy, Bool.false_eq_true, ↓reduceIte]
    exact ⟨trivial, h⟩

/-- the `//` comment loop -/
theorem lineCommentLoop_readEq (fa fb : Nat) (s t : LexSt) (v : List Char) (hfa : s.rest.length < fa) (hfb : t.rest.length < fb)
    (h : ReadEq s.rest t.rest) :
    (lineCommentLoop fa s v).2 = (lineCommentLoop fb t v).2 ∧
    ReadEq (lineCommentLoop fa s v).1.rest (lineCommentLoop fb t v).1.rest := by
  refine fuel_sim (σ := LoopSt) (τ := LoopSt) (·.1.rest.length) (·.1.rest.length) (fun n x => lineCommentLoop n x.1 x.2)
    (fun n x => lineCommentLoop n x.1 x.2) LoopInv (fun r r' => r.2 = r'.2 ∧ ReadEq r.1.rest r'.1.rest) ?_ fa fb (s, v) (t, v) hfa hfb ⟨h, rfl⟩
  rintro fa fb ⟨s, v⟩ ⟨t, _⟩ ⟨h, rfl⟩ ih
  simp only at h ⊢
  unfold lineCommentLoop
  rcases h.peek with ⟨h1, h2, _, _⟩ | ⟨c, ka, kb, h1, h2, _⟩
  · rw [h1, h2]; exact ⟨rfl, h⟩
  · obtain ⟨s1, t1, r, pa, pb, p1, hl⟩ := popOne_sim false h
    rw [h1, h2]
    simp only [pa, pb]
    split
    · exact ⟨rfl, h⟩
    · cases r with
      | none => exact ⟨rfl, p1⟩
      | some ch => exact ih (s1, v ++ ch) (t1, v ++ ch) ⟨p1, rfl⟩ (hl rfl).1 (hl rfl).2

/-! ### block comments: the text may differ in expanded tabs, the end is found at the same place -/

/-- without escapes one `pop` returns one character, or the blanks of an expanded tab -/
theorem popOne_noesc_val (us : Bool) (s : LexSt) (ch : List Char) (h : (popOne us false s).2 = some ch) :
    (∃ c, ch = [c]) ∨ (∃ n, 1 ≤ n ∧ ch = List.replicate n ' ') := by
  unfold popOne at h
  cases hsl : spliceLoop (s.rest.length + 1) s with
  | mk s1 r =>
    rw [hsl] at h
    cases r with
    | none => cases h
    | some p =>
      obtain ⟨c, sz⟩ := p
      simp only at h
      rw [finishPop_val] at h
      have he : (escOf false s1 c sz).1 = [c] := by unfold escOf; simp
      rw [he] at h
      simp only [Option.some.injEq] at h
      by_cases ht : (([c] : List Char) == ['\t'] && us) = true
      · simp only [ht, ↓reduceIte] at h
        exact Or.inr ⟨_, by omega, h.symm⟩
      · simp only [ht, Bool.false_eq_true, ↓reduceIte] at h
        exact Or.inl ⟨c, h.symm⟩

theorem endsWithStarSlash_snoc (v : List Char) (c : Char) :
    endsWithStarSlash (v ++ [c]) = (c == '/' && v.getLast? == some '*') := by
  unfold endsWithStarSlash
  rw [List.reverse_append]
  simp only [List.reverse_cons, List.reverse_nil, List.nil_append, List.singleton_append]
  rw [List.getLast?_eq_head?_reverse]
  cases hr : v.reverse with
  | nil => by_cases hc : c = '/' <;> simp [hc]
  | cons x xs =>
    by_cases hc : c = '/'
    · subst hc
      by_cases hx : x = '*'
      · subst hx; simp
      · simp [hx]
    · simp [hc]

theorem endsWithStarSlash_blank (v : List Char) (n : Nat) (hn : 1 ≤ n) :
    endsWithStarSlash (v ++ List.replicate n ' ') = false := by
  cases n with
  | zero => omega
  | succ n =>
    have : v ++ List.replicate (n + 1) ' ' = (v ++ List.replicate n ' ') ++ [' '] := by
      rw [List.append_assoc]; congr 1
      exact List.replicate_succ'
    rw [this, endsWithStarSlash_snoc]
    simp

/-- what the two texts of a block comment under construction have in common -/
def MCInv (v w : List Char) : Prop :=
  v.getLast? = w.getLast? ∧ 2 ≤ v.length ∧ 2 ≤ w.length ∧ (v = w ∨ (3 ≤ v.length ∧ 3 ≤ w.length))

/-- what two `pop`s with tab expansion return: the same character, or two runs of blanks -/
def Pieces (ch ch' : List Char) : Prop :=
  (∃ c, ch = [c] ∧ ch' = [c]) ∨ ((∃ n, 1 ≤ n ∧ ch = List.replicate n ' ') ∧ (∃ m, 1 ≤ m ∧ ch' = List.replicate m ' '))

theorem getLast?_append_blanks (v : List Char) {n : Nat} (hn : 1 ≤ n) : (v ++ List.replicate n ' ').getLast? = some ' ' := by
  cases n with
  | zero => omega
  | succ n => rw [List.replicate_succ', ← List.append_assoc]; simp

/-- one more piece: the end test gives the same answer and the invariant is kept -/
theorem mc_step {v w ch ch' : List Char} (hinv : MCInv v w) (hp : Pieces ch ch') :
    (endsWithStarSlash (v ++ ch) && decide ((v ++ ch).length ≥ 4)) =
      (endsWithStarSlash (w ++ ch') && decide ((w ++ ch').length ≥ 4)) ∧ MCInv (v ++ ch) (w ++ ch') := by
  obtain ⟨hl, hv2, hw2, hvw⟩ := hinv
  rcases hp with ⟨c, rfl, rfl⟩ | ⟨⟨n, hn, rfl⟩, ⟨m, hm, rfl⟩⟩
  · refine ⟨?_, by simp, by simp; omega, by simp; omega, ?_⟩
    · rw [endsWithStarSlash_snoc, endsWithStarSlash_snoc, hl]
      rcases hvw with rfl | ⟨g1, g2⟩
      · rfl
      · rw [decide_eq_true (by simp; omega : (v ++ [c]).length ≥ 4), decide_eq_true (by simp; omega : (w ++ [c]).length ≥ 4)]
    · rcases hvw with rfl | ⟨g1, g2⟩
      · exact Or.inl rfl
      · exact Or.inr ⟨by simp; omega, by simp; omega⟩
  · rw [endsWithStarSlash_blank v n hn, endsWithStarSlash_blank w m hm]
    exact ⟨rfl, by rw [getLast?_append_blanks v hn, getLast?_append_blanks w hm], by simp; omega, by simp; omega,
      Or.inr ⟨by simp; omega, by simp; omega⟩⟩

/-- one `pop` with tab expansion in two texts that read the same -/
theorem popOne_tab_sim {s t : LexSt} (h : ReadEq s.rest t.rest) :
    ∃ s1 t1 r r', popOne true false s = (s1, r) ∧ popOne true false t = (t1, r') ∧ ReadEq s1.rest t1.rest ∧
      ((r = none ∧ r' = none) ∨ ∃ ch ch', r = some ch ∧ r' = some ch' ∧ Pieces ch ch' ∧
        s1.rest.length < s.rest.length ∧ t1.rest.length < t.rest.length) := by
  obtain ⟨p1, p2⟩ := popOne_readEq true false s t h
  refine ⟨(popOne true false s).1, (popOne true false t).1, (popOne true false s).2, (popOne true false t).2, rfl, rfl, p1, ?_⟩
  have va := popOne_noesc_val true s
  have la := popOne_shrinks true false s
  have lb := popOne_shrinks true false t
  generalize (popOne true false s).2 = r, (popOne true false t).2 = r' at p2 va la lb ⊢
  cases r with
  | none => cases r' with
    | none => exact Or.inl ⟨rfl, rfl⟩
    | some _ => exact p2.elim
  | some ch => cases r' with
    | none => exact p2.elim
    | some ch' =>
      refine Or.inr ⟨ch, ch', rfl, rfl, ?_, la ch rfl, lb ch' rfl⟩
      rcases p2 with rfl | ⟨_, b1, b2⟩
      · rcases va ch rfl with ⟨c, rfl⟩ | hb
        · exact Or.inl ⟨c, rfl, rfl⟩
        · exact Or.inr ⟨hb, hb⟩
      · exact Or.inr ⟨b1, b2⟩

theorem multiCommentLoop_readEq (fa fb : Nat) (s t : LexSt) (v w : List Char) (hfa : s.rest.length < fa)
    (hfb : t.rest.length < fb) (h : ReadEq s.rest t.rest) (hinv : MCInv v w) :
    (multiCommentLoop fa s v).2.2 = (multiCommentLoop fb t w).2.2 ∧
    ReadEq (multiCommentLoop fa s v).1.rest (multiCommentLoop fb t w).1.rest := by
  refine fuel_sim (σ := LoopSt) (τ := LoopSt) (·.1.rest.length) (·.1.rest.length) (fun n x => multiCommentLoop n x.1 x.2)
    (fun n x => multiCommentLoop n x.1 x.2) (fun x y => ReadEq x.1.rest y.1.rest ∧ MCInv x.2 y.2)
    (fun r r' => r.2.2 = r'.2.2 ∧ ReadEq r.1.rest r'.1.rest) ?_ fa fb (s, v) (t, w) hfa hfb ⟨h, hinv⟩
  rintro fa fb ⟨s, v⟩ ⟨t, w⟩ ⟨h, hinv⟩ ih
  simp only at h hinv ⊢
  unfold multiCommentLoop
  rcases h.peek with ⟨h1, h2, _, _⟩ | ⟨c, ka, kb, h1, h2, _⟩
  · rw [h1, h2]; exact ⟨rfl, h⟩
  · obtain ⟨s1, t1, r, r', pa, pb, p1, ⟨rfl, rfl⟩ | ⟨ch, ch', rfl, rfl, hp, l1, l2⟩⟩ := popOne_tab_sim h
    · rw [h1, h2]
      simp only [pa, pb]
      exact ⟨trivial, p1⟩
    · obtain ⟨e, hinv'⟩ := mc_step hinv hp
      rw [h1, h2]
      simp only [pa, pb, e]
      split
      · exact ⟨rfl, p1⟩
      · exact ih (s1, v ++ ch) (t1, w ++ ch') ⟨p1, hinv'⟩ l1 l2

/-! ### character and string bodies -/

theorem charLoop_readEq (fa fb la ca lb cb : Nat) (s t : LexSt) (v : List Char) (n : Nat)
    (hfa : s.rest.length < fa) (hfb : t.rest.length < fb) (h : ReadEq s.rest t.rest) :
    (charLoop la ca fa s v n).2 = (charLoop lb cb fb t v n).2 ∧
    ReadEq (charLoop la ca fa s v n).1.rest (charLoop lb cb fb t v n).1.rest := by
  refine fuel_sim (σ := LoopSt × Nat) (τ := LoopSt × Nat) (·.1.1.rest.length) (·.1.1.rest.length)
    (fun k x => charLoop la ca k x.1.1 x.1.2 x.2) (fun k x => charLoop lb cb k x.1.1 x.1.2 x.2)
    (fun x y => LoopInv x.1 y.1 ∧ x.2 = y.2) (fun r r' => r.2 = r'.2 ∧ ReadEq r.1.rest r'.1.rest) ?_
    fa fb ((s, v), n) ((t, v), n) hfa hfb ⟨⟨h, rfl⟩, rfl⟩
  rintro fa fb ⟨⟨s, v⟩, n⟩ ⟨⟨t, _⟩, _⟩ ⟨⟨h, rfl⟩, rfl⟩ ih
  simp only at h ⊢
  unfold charLoop
  obtain ⟨s1, t1, r, pa, pb, p1, hl⟩ := popOne_sim true h
  rw [pa, pb]
  cases r with
  | none => exact ⟨rfl, p1⟩
  | some ch =>
    simp only
    by_cases hnl : (ch == ['\n']) = true
    · rw [if_pos hnl, if_pos hnl]; exact ⟨rfl, h⟩
    · rw [if_neg hnl, if_neg hnl]
      by_cases hq : (ch == ['\'']) = true
      · rw [if_pos hq, if_pos hq]; exact ⟨rfl, p1⟩
      · rw [if_neg hq, if_neg hq]
        exact ih ((s1, v ++ ch), n + 1) ((t1, v ++ ch), n + 1) ⟨⟨p1, rfl⟩, rfl⟩ (hl rfl).1 (hl rfl).2

theorem strLoop_readEq (fa fb : Nat) (s t : LexSt) (v : List Char) (hfa : s.rest.length < fa) (hfb : t.rest.length < fb)
    (h : ReadEq s.rest t.rest) :
    (strLoop fa s v).2 = (strLoop fb t v).2 ∧ ReadEq (strLoop fa s v).1.rest (strLoop fb t v).1.rest := by
  refine fuel_sim (σ := LoopSt) (τ := LoopSt) (·.1.rest.length) (·.1.rest.length) (fun n x => strLoop n x.1 x.2)
    (fun n x => strLoop n x.1 x.2) LoopInv (fun r r' => r.2 = r'.2 ∧ ReadEq r.1.rest r'.1.rest) ?_ fa fb (s, v) (t, v) hfa hfb ⟨h, rfl⟩
  rintro fa fb ⟨s, v⟩ ⟨t, _⟩ ⟨h, rfl⟩ ih
  simp only at h ⊢
  unfold strLoop
  rcases h.peek with ⟨h1, h2, _, _⟩ | ⟨c, ka, kb, h1, h2, _⟩
  · rw [h1, h2]; exact ⟨rfl, h⟩
  · obtain ⟨s1, t1, r, pa, pb, p1, hl⟩ := popOne_sim true h
    rw [h1, h2]
    simp only [pa, pb]
    cases r with
    | none => exact ⟨rfl, p1⟩
    | some ch =>
      simp only
      split
      · exact ⟨rfl, p1⟩
      · exact ih (s1, v ++ ch) (t1, v ++ ch) ⟨p1, rfl⟩ (hl rfl).1 (hl rfl).2

end Norm
