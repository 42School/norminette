/- C11 at the lexer level: a well-formed integer constant becomes exactly one CONSTANT token
spanning it, with no lexical diagnostic. -/
import NormModel.Proofs.Literals
import NormModel.Proofs.LexTotal
namespace Norm
open Spec

/-! ### `popN` on plain characters -/

/-- a character that `peek` returns as itself and `pop` does not treat specially -/
def plainChar (c : Char) : Prop := c ≠ '?' ∧ c ≠ '<' ∧ c ≠ '%' ∧ c ≠ ':' ∧ c ≠ '\\'

theorem word_plain : ∀ c ∈ wordChars, c ≠ '?' ∧ c ≠ '<' ∧ c ≠ '%' ∧ c ≠ ':' ∧ c ≠ '\\' ∧ c ≠ '\n' ∧ c ≠ '\t' :=
  fun _ h => ⟨ne_of_word h (by decide), ne_of_word h (by decide), ne_of_word h (by decide), ne_of_word h (by decide),
    ne_of_word h (by decide), ne_of_word h (by decide), ne_of_word h (by decide)⟩

theorem popN_plain (cs tl : List Char) (s : LexSt) (hr : s.rest = cs ++ tl) (hp : ∀ c ∈ cs, plainChar c) :
    (popN cs.length s).2 = some cs ∧ (popN cs.length s).1.rest = tl ∧
    (popN cs.length s).1.diags = s.diags := by
  induction cs generalizing s with
  | nil => simp [popN, hr]
  | cons c cs ih =>
    obtain ⟨h1, h2, h3, h4, h5⟩ := hp c (by simp)
    have hpk : peek1 s.rest 0 = some (c, 1) := by rw [hr]; exact peek1_raw h1 h2 h3 h4
    obtain ⟨p1, p2⟩ := popOne_plain hpk h5
    have hd : (popOne false false s).1.diags = s.diags := by
      have hs : spliceLoop (s.rest.length + 1) s = (s, some (c, 1)) := by
        unfold spliceLoop
        simp only [hpk]
        have : (c != '\\') = true := by simp [h5]
        simp [this]
      unfold popOne
      rw [hs]
      simp only
      have he : escOf false s c 1 = ([c], 1, [], 0) := by unfold escOf; simp
      rw [he]
      unfold finishPop
      simp only [List.append_nil]
      split
      · simp [advance]
      · split <;> simp [advance]
    simp only [List.length_cons]
    unfold popN
    cases hpo : popOne false false s with
    | mk s1 r =>
      rw [hpo] at p1 p2 hd
      simp only at p1 p2 hd
      subst p1
      have hr1 : s1.rest = cs ++ tl := by rw [p2, hr]; simp
      obtain ⟨i1, i2, i3⟩ := ih s1 hr1 (fun d hd => hp d (by simp [hd]))
      simp only
      cases hpn : popN cs.length s1 with
      | mk s2 r2 =>
        rw [hpn] at i1 i2 i3
        simp only at i1 i2 i3
        subst i1
        exact ⟨by simp, i2, by rw [i3, hd]⟩

end Norm

namespace Norm
open Spec

theorem after_head2 (u : Uni) {sfx : List Char} (hs : suffixShape sfx = true) {rest : List Char}
    (hb : boundaryOK rest) : ∀ c, (sfx ++ rest).head? = some c →
      isE c = false ∧ isP c = false ∧ c ≠ '.' := by
  intro c hc
  cases hl : sfx with
  | nil =>
    rw [hl] at hc
    cases rest with
    | nil => cases hc
    | cons d tl =>
      simp at hc; subst hc
      obtain ⟨_, hw, hdot, _, _⟩ := hb
      refine ⟨?_, ?_, hdot⟩
      · exact Bool.eq_false_iff.mpr (fun h => hw (letters_sub_word (hexLetters_sub_letters (isE_hex h))))
      · exact Bool.eq_false_iff.mpr (fun h => hw (letters_sub_word (isP_letter h)))
  | cons d tl =>
    rw [hl] at hc; simp at hc; subst hc
    obtain ⟨_, _, _, _, h5, _, _, h8, h9⟩ := (suffixShape_facts hs).2 d (by rw [hl]; rfl)
    exact ⟨h8, h9, h5⟩

theorem matchExp_nil {isL isD : Char → Bool} {tail : List Char → Nat} {l : List Char}
    (h : ∀ c, l.head? = some c → isL c = false) : matchExp isL isD tail l = [] := by
  unfold matchExp spanP
  have : l.takeWhile isL = [] := by
    cases l with
    | nil => rfl
    | cons c tl => simp [List.takeWhile_cons, h c rfl]
  simp [this]

/-- the three float patterns do not claim an integer constant (well-formed or of the malformed shapes) -/
theorem floatLogic_int_noMatch (u : Uni) (k : IntConst) (hk : k.Shape) (rest : List Char) (hb : boundaryOK rest)
    (line col : Nat) : floatLogic u line col (k.render ++ rest) = .noMatch := by
  obtain ⟨hs, hbase⟩ := hk
  have hah := after_head u hs hb
  have hah2 := after_head2 u hs hb
  have hE : matchExp isE u.isD (tailDec u) (k.suffix.toList ++ rest) = [] := matchExp_nil (fun c hc => (hah2 c hc).1)
  have hnodot : ∀ tl, k.suffix.toList ++ rest ≠ '.' :: tl := by
    intro tl h
    have := (hah2 '.' (by rw [h]; rfl)).2.2
    exact this rfl
  unfold IntConst.render IntConst.body
  cases hbse : k.base with
  | dec =>
    rw [hbse] at hbase
    simp only at hbase ⊢
    obtain ⟨d, ds, hd, hnz, hds⟩ := hbase
    have hall : ∀ c ∈ k.digits, c ∈ decDigits := by
      rw [hd]; intro c hc
      rcases List.mem_cons.mp hc with rfl | hc
      · exact nonzero_sub_dec hnz
      · have := hds c hc; unfold isDec at this; simpa using this
    have hd0 : d ≠ '0' := nonzero_ne_zero d hnz
    have htw : (k.digits ++ (k.suffix.toList ++ rest)).takeWhile u.isD = k.digits :=
      takeWhile_app (fun c hc => (dec_facts u (hall c hc)).1) (fun c hc => (hah c hc).1)
    have hdw : (k.digits ++ (k.suffix.toList ++ rest)).dropWhile u.isD = k.suffix.toList ++ rest :=
      dropWhile_app (fun c hc => (dec_facts u (hall c hc)).1) (fun c hc => (hah c hc).1)
    have h1 : matchFloatExp u (k.digits ++ (k.suffix.toList ++ rest)) = none := by
      unfold matchFloatExp spanP; simp only [htw, hdw, hE]; simp
    have h2 : matchFloatFrac u (k.digits ++ (k.suffix.toList ++ rest)) = none := by
      unfold matchFloatFrac spanP
      simp only [htw, hdw]
      all_goals
        split
        · rfl
        · rename_i c r hc
          split at hc
          · rename_i r' heq; exact absurd heq (hnodot r')
          · cases hc
    have h3 : matchFloatHex u (k.digits ++ (k.suffix.toList ++ rest)) = none := by
      unfold matchFloatHex
      rw [hd]
      simp only [List.cons_append]
      split
      · rename_i tl heq; simp only [List.cons.injEq] at heq; exact absurd heq.1 hd0
      · rfl
    rw [List.append_assoc]
    unfold floatLogic
    simp only [h1, h2, h3]
    done
  | oct =>
    rw [hbse] at hbase
    simp only at hbase ⊢
    have hall : ∀ c ∈ ('0' :: k.digits), c ∈ decDigits := by
      intro c hc
      rcases List.mem_cons.mp hc with rfl | hc
      · decide
      · have := hbase c hc; unfold isDec at this; simpa using this
    have htw : (('0' :: k.digits) ++ (k.suffix.toList ++ rest)).takeWhile u.isD = '0' :: k.digits :=
      takeWhile_app (fun c hc => (dec_facts u (hall c hc)).1) (fun c hc => (hah c hc).1)
    have hdw : (('0' :: k.digits) ++ (k.suffix.toList ++ rest)).dropWhile u.isD = k.suffix.toList ++ rest :=
      dropWhile_app (fun c hc => (dec_facts u (hall c hc)).1) (fun c hc => (hah c hc).1)
    have h1 : matchFloatExp u (('0' :: k.digits) ++ (k.suffix.toList ++ rest)) = none := by
      unfold matchFloatExp spanP; simp only [htw, hdw, hE]; simp
    have h2 : matchFloatFrac u (('0' :: k.digits) ++ (k.suffix.toList ++ rest)) = none := by
      unfold matchFloatFrac spanP
      simp only [htw, hdw]
      all_goals
        split
        · rfl
        · rename_i c r hc
          split at hc
          · rename_i r' heq; exact absurd heq (hnodot r')
          · cases hc
    have h3 : matchFloatHex u (('0' :: k.digits) ++ (k.suffix.toList ++ rest)) = none := by
      unfold matchFloatHex
      simp only [List.cons_append]
      have : (k.digits ++ (k.suffix.toList ++ rest)).takeWhile (fun c => c == 'x' || c == 'X') = [] := by
        cases hl : k.digits ++ (k.suffix.toList ++ rest) with
        | nil => rfl
        | cons c tl =>
          have hx : isXc c = false := by
            cases hdg : k.digits with
            | nil => rw [hdg] at hl; exact (hah c (by simp at hl; rw [hl]; rfl)).2.2.1
            | cons e es =>
              rw [hdg] at hl; simp only [List.cons_append, List.cons.injEq] at hl
              rw [← hl.1]; exact (dec_facts u (hall e (by rw [hdg]; simp))).2.2.2.1
          unfold isXc at hx
          simp [hx]
      rw [this]
    rw [List.append_assoc]
    unfold floatLogic
    simp only [h1, h2, h3]
  | hex x =>
    rw [hbse] at hbase
    simp only at hbase ⊢
    obtain ⟨hx, hne, hhex⟩ := hbase
    have hall : ∀ c ∈ k.digits, c ∈ hexDigits := fun c hc => by have := hhex c hc; unfold isHex at this; simpa using this
    have hxD : u.isD x = false := by
      exact isD_letter u (isXc_letter (isXc_iff.mpr hx))
    have hxE : isE x = false := by rcases hx with rfl | rfl <;> decide
    have hxdot : x ≠ '.' := by rcases hx with rfl | rfl <;> decide
    have h0 : u.isD '0' = true := isD_of_dec u zero_dec
    have htw0 : ('0' :: x :: (k.digits ++ (k.suffix.toList ++ rest))).takeWhile u.isD = ['0'] := by
      simp [List.takeWhile_cons, h0, hxD]
    have hdw0 : ('0' :: x :: (k.digits ++ (k.suffix.toList ++ rest))).dropWhile u.isD = x :: (k.digits ++ (k.suffix.toList ++ rest)) := by
      simp [List.dropWhile_cons, h0, hxD]
    have h1 : matchFloatExp u ('0' :: x :: (k.digits ++ (k.suffix.toList ++ rest))) = none := by
      unfold matchFloatExp spanP
      simp only [htw0, hdw0]
      have : matchExp isE u.isD (tailDec u) (x :: (k.digits ++ (k.suffix.toList ++ rest))) = [] :=
        matchExp_nil (fun c hc => by simp at hc; subst hc; exact hxE)
      simp [this]
    have h2 : matchFloatFrac u ('0' :: x :: (k.digits ++ (k.suffix.toList ++ rest))) = none := by
      unfold matchFloatFrac spanP
      simp only [htw0, hdw0]
      split
      · rfl
      · rename_i c r hc
        split at hc
        · rename_i r' heq; simp only [List.cons.injEq] at heq; exact absurd heq.1 hxdot
        · cases hc
    -- the hexadecimal pattern matches, but as an integer (no dot, no exponent)
    have hxX : (x == 'x' || x == 'X') = true := by rcases hx with rfl | rfl <;> decide
    have hdigX : ∀ c, (k.digits ++ (k.suffix.toList ++ rest)).head? = some c → (c == 'x' || c == 'X') = false := by
      intro c hc
      cases hdg : k.digits with
      | nil => exact absurd hdg hne
      | cons e es =>
        rw [hdg] at hc
        simp only [List.cons_append, List.head?_cons, Option.some.injEq] at hc
        rw [← hc]
        have := (hex_facts u (hall e (by rw [hdg]; simp))).2.2.1
        unfold isXc at this; exact this
    have htwx : (x :: (k.digits ++ (k.suffix.toList ++ rest))).takeWhile (fun c => c == 'x' || c == 'X') = [x] := by
      have := takeWhile_app (p := fun c => c == 'x' || c == 'X') (s := [x]) (rest := k.digits ++ (k.suffix.toList ++ rest))
        (by intro c hc; simp at hc; subst hc; exact hxX) hdigX
      simpa using this
    have hdwx : (x :: (k.digits ++ (k.suffix.toList ++ rest))).dropWhile (fun c => c == 'x' || c == 'X') = k.digits ++ (k.suffix.toList ++ rest) := by
      have := dropWhile_app (p := fun c => c == 'x' || c == 'X') (s := [x]) (rest := k.digits ++ (k.suffix.toList ++ rest))
        (by intro c hc; simp at hc; subst hc; exact hxX) hdigX
      simpa using this
    have htw : (k.digits ++ (k.suffix.toList ++ rest)).takeWhile u.isH = k.digits :=
      takeWhile_app (fun c hc => (hex_facts u (hall c hc)).1) (fun c hc => (hah c hc).2.1)
    have hdw : (k.digits ++ (k.suffix.toList ++ rest)).dropWhile u.isH = k.suffix.toList ++ rest :=
      dropWhile_app (fun c hc => (hex_facts u (hall c hc)).1) (fun c hc => (hah c hc).2.1)
    have hP : matchExp isP u.isH (tailHex u) (k.suffix.toList ++ rest) = [] := matchExp_nil (fun c hc => (hah2 c hc).2.1)
    have hde : k.digits.isEmpty = false := by cases hdg : k.digits with | nil => exact absurd hdg hne | cons _ _ => rfl
    have hnd : ∀ c ∈ k.digits, c ≠ '.' := by
      intro c hc h; subst h
      exact ne_of_word (hex_sub_word (hall '.' hc)) (by decide) rfl
    have hmant : hexMantissa u (k.digits ++ (k.suffix.toList ++ rest)) = some (k.digits, k.suffix.toList ++ rest) := by
      unfold hexMantissa
      rw [htw, hdw]
      cases hdg : k.digits with
      | nil => exact absurd hdg hne
      | cons e es =>
        simp only
        all_goals
          split
          · rename_i r heq; exact absurd heq (hnodot r)
          · rfl
    obtain ⟨m, h3, hm⟩ : ∃ m, matchFloatHex u ('0' :: x :: (k.digits ++ (k.suffix.toList ++ rest))) = some m ∧
        m.kind = .hexadecimal ∧ m.const = '0' :: x :: k.digits ∧ m.exp = [] := by
      unfold matchFloatHex
      simp only [htwx, hdwx, hmant, hP]
      exact ⟨_, rfl, rfl, by simp, rfl⟩
    rw [List.append_assoc]
    unfold floatLogic
    simp only [List.cons_append, h1, h2, h3]
    obtain ⟨hk1, hk2, hk3⟩ := hm
    have hc1 : (m.kind != FloatKind.hexadecimal && !m.exp.isEmpty && !goodExponent u m.exp) = false := by rw [hk1]; rfl
    have hc2 : (m.kind == FloatKind.hexadecimal && !m.const.contains '.' && m.exp.isEmpty) = true := by
      rw [hk1, hk2, hk3]
      have : ('0' :: x :: k.digits).contains '.' = false := by
        simp
        exact ⟨fun h => hxdot h.symm, fun h => hnd '.' h rfl⟩
      rw [this]; simp
    simp only [hc1, hc2, Bool.false_eq_true, ↓reduceIte]
  | bin b =>
    rw [hbse] at hbase
    simp only at hbase ⊢
    obtain ⟨hbb, hne, hbin⟩ := hbase
    have hbD : u.isD b = false := by
      exact isD_letter u (hexLetters_sub_letters (isBc_hex (isBc_iff.mpr hbb)))
    have hbE : isE b = false := by rcases hbb with rfl | rfl <;> decide
    have hbdot : b ≠ '.' := by rcases hbb with rfl | rfl <;> decide
    have hbX : (b == 'x' || b == 'X') = false := by rcases hbb with rfl | rfl <;> decide
    have h0 : u.isD '0' = true := isD_of_dec u zero_dec
    have htw0 : ('0' :: b :: (k.digits ++ (k.suffix.toList ++ rest))).takeWhile u.isD = ['0'] := by
      simp [List.takeWhile_cons, h0, hbD]
    have hdw0 : ('0' :: b :: (k.digits ++ (k.suffix.toList ++ rest))).dropWhile u.isD = b :: (k.digits ++ (k.suffix.toList ++ rest)) := by
      simp [List.dropWhile_cons, h0, hbD]
    have h1 : matchFloatExp u ('0' :: b :: (k.digits ++ (k.suffix.toList ++ rest))) = none := by
      unfold matchFloatExp spanP
      simp only [htw0, hdw0]
      have : matchExp isE u.isD (tailDec u) (b :: (k.digits ++ (k.suffix.toList ++ rest))) = [] :=
        matchExp_nil (fun c hc => by simp at hc; subst hc; exact hbE)
      simp [this]
    have h2 : matchFloatFrac u ('0' :: b :: (k.digits ++ (k.suffix.toList ++ rest))) = none := by
      unfold matchFloatFrac spanP
      simp only [htw0, hdw0]
      split
      · rfl
      · rename_i c r hc
        split at hc
        · rename_i r' heq; simp only [List.cons.injEq] at heq; exact absurd heq.1 hbdot
        · cases hc
    have h3 : matchFloatHex u ('0' :: b :: (k.digits ++ (k.suffix.toList ++ rest))) = none := by
      unfold matchFloatHex
      simp [hbX]
    rw [List.append_assoc]
    unfold floatLogic
    simp only [List.cons_append, h1, h2, h3]

end Norm
