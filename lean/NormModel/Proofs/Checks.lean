/- Lemmas about the always-run checks (`Model/Checks.lean`) and their composition with the
engine loop: every token of a file that reaches a verdict is handed to them exactly once. -/
import NormModel.Model.Checks
import NormModel.Proofs.Engine
namespace Norm

theorem mem_segToks (toks : List Token) (g : Segment) (i : Nat) (tk : Token)
    (h1 : g.start ≤ i) (h2 : i < g.start + g.len) (hi : toks[i]? = some tk) : tk ∈ segToks toks g := by
  unfold segToks
  apply List.mem_of_getElem? (i := i - g.start)
  rw [List.getElem?_take]
  have : i - g.start < g.len := by omega
  simp only [this, ↓reduceIte, List.getElem?_drop]
  have : g.start + (i - g.start) = i := by omega
  rw [this]; exact hi

theorem segToks_sub (toks : List Token) (g : Segment) (tk : Token) (h : tk ∈ segToks toks g) : tk ∈ toks :=
  List.mem_of_mem_drop (List.mem_of_mem_take h)

/-- in a run that reaches a verdict with `debug = 0`, every token belongs to some statement -/
theorem token_in_some_segment {σ : Type} (step : σ → Nat → StepRes σ) (s s' : σ) (toks : List Token)
    (t : List Segment) (u : List Nat) (h : engineRun step 0 s toks.length = .ok s' t u)
    (tk : Token) (htk : tk ∈ toks) : ∃ g ∈ t, tk ∈ segToks toks g := by
  obtain ⟨i, hi, hget⟩ := List.getElem_of_mem htk
  obtain ⟨g, hg, h1, h2⟩ := engineRun_covers h hi
  exact ⟨g, hg, mem_segToks toks g i tk h1 h2 (hget ▸ List.getElem?_eq_getElem hi)⟩

/-- the two models of `CheckLineLen.run` (on tokens, on positions) report the same lines -/
theorem lineLenToks_lines (seg : List Token) (seen : List Nat) :
    (lineLenToks seg seen).map (·.line) = checkLineLen (seg.map fun t => (t.line, t.col)) seen := by
  induction seg generalizing seen with
  | nil => rfl
  | cons a rest ih =>
    simp only [lineLenToks, List.map_cons, checkLineLen]
    split <;> simp [ih]

theorem lineLenToks_sound (seg : List Token) (seen : List Nat) (t : Token) (h : t ∈ lineLenToks seg seen) :
    t ∈ seg ∧ 81 < t.col := by
  induction seg generalizing seen with
  | nil => cases h
  | cons a rest ih =>
    unfold lineLenToks at h
    split at h
    · rename_i hc
      rcases List.mem_cons.mp h with rfl | h
      · exact ⟨List.mem_cons_self, of_decide_eq_true (Bool.and_eq_true _ _ ▸ hc).1⟩
      · exact ⟨List.mem_cons_of_mem _ (ih _ h).1, (ih _ h).2⟩
    · exact ⟨List.mem_cons_of_mem _ (ih _ h).1, (ih _ h).2⟩

/-- what `CheckTernary` and `CheckLineLen` add over a whole run, statement by statement -/
theorem mem_alwaysDiagsRun {toks : List Token} {t : List Segment} {d : Diag} :
    d ∈ alwaysDiagsRun toks t ↔ ∃ g ∈ t,
      (∃ tk ∈ segToks toks g, tk.type = "TERN_CONDITION" ∧ d = tokDiag "TERNARY_FBIDDEN" tk) ∨
      (∃ tk ∈ lineLenToks (segToks toks g) [], d = tokDiag "LINE_TOO_LONG" tk) := by
  simp only [alwaysDiagsRun, alwaysDiags, ternaryToks, List.mem_flatMap, List.mem_append, List.mem_map,
    List.mem_filter, beq_iff_eq, and_assoc, eq_comm (a := d)]

/-- what `CheckManyInstructions` adds over a whole run -/
theorem mem_manyInstrDiagsRun {toks : List Token} {t : List Segment} {d : Diag} :
    d ∈ manyInstrDiagsRun toks t ↔ ∃ g ∈ t, ∃ tk, toks[g.start]? = some tk ∧
      runsAfter "CheckManyInstructions" g.rule = true ∧ 1 < tk.col ∧ d = tokDiag "TOO_MANY_INSTR" tk := by
  simp only [manyInstrDiagsRun, List.mem_flatMap]
  refine exists_congr fun g => and_congr_right fun _ => ?_
  unfold manyInstrDiags
  cases toks[g.start]? <;> cases runsAfter "CheckManyInstructions" g.rule <;> simp

end Norm
