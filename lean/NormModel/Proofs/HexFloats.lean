/- Hexadecimal floating constants: the float parser on well-formed constants. -/
import NormModel.Proofs.Floats
namespace Norm
open Spec

theorem isP_facts : isP 'p' = true ∧ isP 'P' = true ∧ (∀ c ∈ hexDigits, isP c = false) ∧
    isP '+' = false ∧ isP '-' = false ∧ isP '.' = false :=
  ⟨by decide, by decide, fun _ h => Bool.eq_false_iff.mpr (fun hp => isP_not_hex hp h), by decide, by decide, by decide⟩

/-- the part of a floating suffix that the hexadecimal exponent group swallows (`f`, `F` are hexadecimal digits) and
the part left for the suffix group -/
def sfxSplit (sfx : String) : List Char × List Char :=
  if sfx = "f" ∨ sfx = "F" then (sfx.toList, []) else ([], sfx.toList)

theorem sfxSplit_spec : ∀ s ∈ Spec.floatSuffixes,
    (sfxSplit s).1 ++ (sfxSplit s).2 = s.toList ∧ (∀ c ∈ (sfxSplit s).1, c ∈ hexDigits) ∧
    (∀ c, (sfxSplit s).2.head? = some c → c ∉ hexDigits ∧ c ∈ wordChars) ∧
    Generated.floatSuffixes.contains (String.ofList (sfxSplit s).2) = true ∧ (sfxSplit s).2.count '.' = 0 ∧
    (∀ c ∈ (sfxSplit s).2, c ∈ wordChars) := by
  unfold hexDigits wordChars; rw [String.toList_ofList, String.toList_ofList]; decide +kernel

/-- the exponent group of the hexadecimal pattern on a well-formed binary exponent, followed by hexadecimal digits
`H` (the `f`/`F` of a suffix) and then something that is no hexadecimal digit: the part and `H` -/
theorem matchBinExp_valid (u : Uni) (x : BinExp) (hx : x.WF) (H after : List Char) (hH : ∀ c ∈ H, c ∈ hexDigits)
    (ha : ∀ c, after.head? = some c → u.isH c = false) (tail : List Char → Nat) :
    matchExp isP u.isH tail (x.render ++ (H ++ after)) = x.render ++ H := by
  obtain ⟨hp, hsign, hne, hdig⟩ := hx
  have hisP : isP x.p = true := by rcases hp with h | h <;> rw [h] <;> decide
  have hdH : ∀ c ∈ x.digits ++ H, u.isH c = true := by
    intro c hc
    rcases List.mem_append.mp hc with h | h
    · exact (dec_facts u (hdig c h)).2.1
    · exact (hex_facts u (hH c h)).1
  have hdec_sub : ∀ c ∈ decDigits, c ∈ hexDigits := fun _ => dec_sub_hex
  obtain ⟨d0, ds, hds⟩ : ∃ d0 ds, x.digits = d0 :: ds := by
    cases hd : x.digits with
    | nil => exact absurd hd hne
    | cons a b => exact ⟨a, b, rfl⟩
  have hd0P : isP d0 = false := isP_facts.2.2.1 d0 (hdec_sub d0 (hdig d0 (by rw [hds]; simp)))
  have htw : ((x.digits ++ H) ++ after).takeWhile u.isH = x.digits ++ H := takeWhile_app hdH ha
  unfold matchExp spanP BinExp.render
  cases hs : x.sign with
  | none =>
    simp only [Option.toList_none, List.nil_append, List.cons_append]
    have h1 : (x.p :: (x.digits ++ (H ++ after))).takeWhile isP = [x.p] := by
      rw [hds]; simp [List.takeWhile, hisP, hd0P]
    have h2 : (x.p :: (x.digits ++ (H ++ after))).dropWhile isP = x.digits ++ (H ++ after) := by
      rw [hds]; simp [List.dropWhile, hisP, hd0P]
    simp only [h1, h2, List.isEmpty_cons, Bool.false_eq_true, ↓reduceIte]
    have hnots : (d0 == '+' || d0 == '-') = false := by
      exact dec_not_sign (hdig d0 (by rw [hds]; simp))
    have htw' : (x.digits ++ (H ++ after)).takeWhile u.isH = x.digits ++ H := by
      rw [← List.append_assoc]; exact htw
    rw [hds] at htw' ⊢
    simp only [List.cons_append, hnots, Bool.false_eq_true, ↓reduceIte]
    rw [show d0 :: (ds ++ (H ++ after)) = (d0 :: ds) ++ (H ++ after) by rfl, htw']
    simp
  | some sg =>
    have hsg := hsign sg hs
    simp only [Option.toList_some, List.cons_append, List.nil_append]
    have hsgP : isP sg = false := by rcases hsg with rfl | rfl <;> decide
    have h1 : (x.p :: sg :: (x.digits ++ (H ++ after))).takeWhile isP = [x.p] := by
      simp [List.takeWhile, hisP, hsgP]
    have h2 : (x.p :: sg :: (x.digits ++ (H ++ after))).dropWhile isP = sg :: (x.digits ++ (H ++ after)) := by
      simp [List.dropWhile, hisP, hsgP]
    simp only [h1, h2, List.isEmpty_cons, Bool.false_eq_true, ↓reduceIte]
    have hsgb : (sg == '+' || sg == '-') = true := by rcases hsg with rfl | rfl <;> decide
    have htw' : (x.digits ++ (H ++ after)).takeWhile u.isH = x.digits ++ H := by
      rw [← List.append_assoc]; exact htw
    simp only [hsgb, ↓reduceIte, htw']
    rw [hds]
    simp

theorem goodBinExponent_valid (u : Uni) (x : BinExp) (hx : x.WF) (H : List Char) : goodBinExponent u (x.render ++ H) = true := by
  obtain ⟨hp, hsign, hne, hdig⟩ := hx
  have hisP : isP x.p = true := by rcases hp with h | h <;> rw [h] <;> decide
  obtain ⟨d0, ds, hds⟩ : ∃ d0 ds, x.digits = d0 :: ds := by
    cases hd : x.digits with
    | nil => exact absurd hd hne
    | cons a b => exact ⟨a, b, rfl⟩
  have hd0 : u.isD d0 = true := (dec_facts u (hdig d0 (by rw [hds]; simp))).1
  unfold goodBinExponent BinExp.render
  cases hs : x.sign with
  | none =>
    have hnots : (d0 == '+' || d0 == '-') = false := by
      exact dec_not_sign (hdig d0 (by rw [hds]; simp))
    simp [hisP, hds, hnots, hd0]
  | some sg =>
    have hsgb : (sg == '+' || sg == '-') = true := by
      rcases hsign sg hs with rfl | rfl <;> decide
    simp [hisP, hds, hsgb, hd0]

theorem x_facts (u : Uni) {x : Char} (hx : x = 'x' ∨ x = 'X') :
    u.isD x = false ∧ u.isH x = false ∧ isE x = false ∧ x ≠ '.' ∧ (x == 'x' || x == 'X') = true ∧
    (Generated.hexadecimalDigits.toList ++ ['.']).contains x = false := by
  have hxc := isXc_iff.mpr hx
  refine ⟨isD_letter u (isXc_letter hxc), isXc_not_isH u hxc, by rcases hx with rfl | rfl <;> decide,
    by rcases hx with rfl | rfl <;> decide, hxc, ?_⟩
  rw [hexadecimalDigits_eq, Bool.eq_false_iff, Ne, List.contains_iff_mem, List.mem_append, List.mem_singleton]
  rintro (h | rfl)
  · exact isXc_not_hex hxc h
  · revert hxc; decide

theorem hexbucket : ∀ c ∈ hexDigits, (Generated.hexadecimalDigits.toList ++ ['.']).contains c = true ∧
    (c == 'x' || c == 'X') = false ∧ c ≠ '.' := fun c h =>
  ⟨List.contains_iff_mem.mpr (List.mem_append_left _ h), Bool.eq_false_iff.mpr (fun hx => isXc_not_hex hx h),
    ne_of_word (hex_sub_word h) (by decide)⟩

/-- `str.strip(hexadecimal digits + ".")` of `0x<mantissa>` is `x` -/
theorem strip_hexconst (x : Char) (hx : x = 'x' ∨ x = 'X') (mant : List Char)
    (hm : ∀ c ∈ mant, (Generated.hexadecimalDigits.toList ++ ['.']).contains c = true) :
    stripChars (Generated.hexadecimalDigits.toList ++ ['.']) ('0' :: x :: mant) = [x] := by
  have hxb : (Generated.hexadecimalDigits.toList ++ ['.']).contains x = false := (x_facts {} hx).2.2.2.2.2
  have h0 : (Generated.hexadecimalDigits.toList ++ ['.']).contains '0' = true := (hexbucket '0' (dec_sub_hex zero_dec)).1
  unfold stripChars
  have e1 : ('0' :: x :: mant).dropWhile (Generated.hexadecimalDigits.toList ++ ['.']).contains = x :: mant := by
    simp only [List.dropWhile_cons, h0, hxb, ↓reduceIte, Bool.false_eq_true]
  rw [e1]
  have e2 : (x :: mant).reverse = mant.reverse ++ [x] := by simp
  rw [e2]
  have e3 : (mant.reverse ++ [x]).dropWhile (Generated.hexadecimalDigits.toList ++ ['.']).contains = [x] := by
    apply dropWhile_app
    · intro c hc; exact hm c (List.mem_reverse.mp hc)
    · intro c hc; simp at hc; subst hc; exact hxb
  rw [e3]; rfl

/-- the mantissa of the hexadecimal pattern on `ip`, `ip.`, `ip.fp`, `.fp`, followed by a text whose head is no
hexadecimal digit and no dot -/
theorem hexMantissa_valid (u : Uni) (ip : List Char) (frac : Option (List Char)) (tl : List Char)
    (hip : ∀ c ∈ ip, c ∈ hexDigits)
    (hfr : fracOK ip frac)
    (htl : ∀ c, tl.head? = some c → u.isH c = false ∧ c ≠ '.') :
    hexMantissa u ((ip ++ fracText frac) ++ tl) = some (ip ++ fracText frac, tl) := by
  have hipH : ∀ c ∈ ip, u.isH c = true := fun c hc => (hex_facts u (hip c hc)).1
  unfold hexMantissa
  cases frac with
  | none =>
    simp only [fracOK] at hfr
    simp only [fracText, List.append_nil]
    have t1 : (ip ++ tl).takeWhile u.isH = ip := takeWhile_app hipH (fun c hc => (htl c hc).1)
    have d1 : (ip ++ tl).dropWhile u.isH = tl := dropWhile_app hipH (fun c hc => (htl c hc).1)
    rw [t1, d1]
    cases hipl : ip with
    | nil => exact absurd hipl hfr
    | cons a as =>
      simp only
      cases htl' : tl with
      | nil => rfl
      | cons c r =>
        have hc : c ≠ '.' := (htl c (by rw [htl']; rfl)).2
        split
        · rename_i r' heq
          first
            | (simp only [List.cons.injEq] at heq; exact absurd heq.1 hc)
            | (simp only [List.cons.injEq] at r'; exact absurd r'.1 hc)
        · rfl
  | some fp =>
    simp only [fracOK] at hfr
    obtain ⟨hfp, hne⟩ := hfr
    have hfpH : ∀ c ∈ fp, u.isH c = true := fun c hc => (hex_facts u (hfp c hc)).1
    have hdot : ∀ c, ('.' :: (fp ++ tl)).head? = some c → u.isH c = false := by
      intro c hc; simp at hc; subst hc; exact isH_punct u (by decide)
    have t1 : (ip ++ ('.' :: (fp ++ tl))).takeWhile u.isH = ip := takeWhile_app hipH hdot
    have d1 : (ip ++ ('.' :: (fp ++ tl))).dropWhile u.isH = '.' :: (fp ++ tl) := dropWhile_app hipH hdot
    have t2 : (fp ++ tl).takeWhile u.isH = fp := takeWhile_app hfpH (fun c hc => (htl c hc).1)
    have d2 : (fp ++ tl).dropWhile u.isH = tl := dropWhile_app hfpH (fun c hc => (htl c hc).1)
    simp only [fracText, List.append_assoc, List.cons_append]
    rw [t1]
    cases hipl : ip with
    | nil =>
      simp only [List.nil_append]
      rw [t2]
      cases hfpl : fp with
      | nil => rcases hne with h | h; exact absurd hipl h; exact absurd hfpl h
      | cons f fs =>
        simp only
        rw [← hfpl]
        have : (fp ++ tl).drop fp.length = tl := by simp
        rw [this]
    | cons a as =>
      simp only
      rw [← hipl, d1]
      simp only [t2, d2]

/-- the three patterns and the diagnostic logic, once the mantissa, the exponent group and the suffix group are known -/
theorem floatLogic_hex_core (u : Uni) (line col : Nat) (x : Char) (hx : x = 'x' ∨ x = 'X') (mant E H L rest : List Char)
    (hmant : hexMantissa u (mant ++ (E ++ (H ++ (L ++ rest)))) = some (mant, E ++ (H ++ (L ++ rest))))
    (hme : matchExp isP u.isH (tailHex u) (E ++ (H ++ (L ++ rest))) = E ++ H)
    (hsuf : floatSuffix u (L ++ rest) = L)
    (hmh : ∀ c, (mant ++ (E ++ (H ++ (L ++ rest)))).head? = some c → (c == 'x' || c == 'X') = false)
    (hmantb : ∀ c ∈ mant, (Generated.hexadecimalDigits.toList ++ ['.']).contains c = true)
    (hEne : (E ++ H).isEmpty = false) (hgood : goodBinExponent u (E ++ H) = true)
    (hLdot : L.count '.' = 0) (hLs : String.ofList L ∈ Generated.floatSuffixes) :
    floatLogic u line col ('0' :: x :: (mant ++ (E ++ (H ++ (L ++ rest))))) =
      .tok ⟨.hexadecimal, '0' :: x :: mant, E ++ H, L⟩ none := by
  obtain ⟨x1, x2, x3, x4, x5, x6⟩ := x_facts u hx
  have h0 : u.isD '0' = true := isD_of_dec u zero_dec
  have htwD : ('0' :: x :: (mant ++ (E ++ (H ++ (L ++ rest))))).takeWhile u.isD = ['0'] := by
    simp only [List.takeWhile_cons, h0, x1, ↓reduceIte, Bool.false_eq_true]
  have hdwD : ('0' :: x :: (mant ++ (E ++ (H ++ (L ++ rest))))).dropWhile u.isD = x :: (mant ++ (E ++ (H ++ (L ++ rest)))) := by
    simp only [List.dropWhile_cons, h0, x1, ↓reduceIte, Bool.false_eq_true]
  have hm1 : matchFloatExp u ('0' :: x :: (mant ++ (E ++ (H ++ (L ++ rest))))) = none := by
    unfold matchFloatExp spanP
    simp only [htwD, hdwD]
    have : matchExp isE u.isD (tailDec u) (x :: (mant ++ (E ++ (H ++ (L ++ rest))))) = [] :=
      matchExp_nil (by intro c hc; simp at hc; subst hc; exact x3)
    simp [this]
  have hm2 : matchFloatFrac u ('0' :: x :: (mant ++ (E ++ (H ++ (L ++ rest))))) = none := by
    unfold matchFloatFrac spanP
    simp only [htwD, hdwD]
    split
    · rfl
    · rename_i c r hc
      split at hc
      · rename_i r' heq
        simp only [List.cons.injEq] at heq
        exact absurd heq.1 x4
      · cases hc
  have hm3 : matchFloatHex u ('0' :: x :: (mant ++ (E ++ (H ++ (L ++ rest))))) =
      some ⟨.hexadecimal, '0' :: x :: mant, E ++ H, L⟩ := by
    unfold matchFloatHex
    simp only
    have tx : (x :: (mant ++ (E ++ (H ++ (L ++ rest))))).takeWhile (fun c => c == 'x' || c == 'X') = [x] := by
      have := takeWhile_app (p := fun c => c == 'x' || c == 'X') (s := [x]) (rest := mant ++ (E ++ (H ++ (L ++ rest))))
        (by intro c hc; simp at hc; subst hc; exact x5) hmh
      simpa using this
    have dx : (x :: (mant ++ (E ++ (H ++ (L ++ rest))))).dropWhile (fun c => c == 'x' || c == 'X') = mant ++ (E ++ (H ++ (L ++ rest))) := by
      have := dropWhile_app (p := fun c => c == 'x' || c == 'X') (s := [x]) (rest := mant ++ (E ++ (H ++ (L ++ rest))))
        (by intro c hc; simp at hc; subst hc; exact x5) hmh
      simpa using this
    rw [tx, dx, hmant]
    simp only [hme]
    have : (E ++ (H ++ (L ++ rest))).drop (E ++ H).length = L ++ rest := by
      rw [← List.append_assoc]; simp
    rw [this, hsuf]
    simp
  unfold floatLogic
  simp only [hm1, hm2, hm3]
  have hstrip := strip_hexconst x hx mant hmantb
  have hbad : (([x] : List Char) == ['x'] || ([x] : List Char) == ['X']) = true := by
    rcases hx with h | h <;> rw [h] <;> decide
  simp [hEne, hstrip, hgood, hLdot, hLs]
  try exact fun h => hx.resolve_left h

/-- **The float parser on a well-formed hexadecimal floating constant**: a match whose three groups spell exactly the
constant, and no diagnostic. -/
theorem floatLogic_hex_valid (u : Uni) (k : HexFloat) (hk : k.WF) (rest : List Char) (hb : boundaryOK rest)
    (line col : Nat) :
    ∃ m, floatLogic u line col (k.render ++ rest) = .tok m none ∧ m.const ++ m.exp ++ m.suf = k.render := by
  obtain ⟨hx, hip, hfr, hexp, hs⟩ := hk
  obtain ⟨sp1, sp2, sp3, sp4, sp5, sp6⟩ := sfxSplit_spec k.sfx hs
  generalize (sfxSplit k.sfx).1 = H at sp1 sp2
  generalize (sfxSplit k.sfx).2 = L at sp1 sp3 sp4 sp5 sp6
  have hnotH : ∀ c ∈ wordChars, c ∉ hexDigits → u.isH c = false := fun c => isH_not_hex u
  have hLH : ∀ c, (L ++ rest).head? = some c → u.isH c = false := by
    intro c hc
    cases hL : L with
    | nil =>
      rw [hL] at hc; simp only [List.nil_append] at hc
      exact (boundary_head u hb c hc).2.2.1
    | cons d tl =>
      rw [hL] at hc; simp only [List.cons_append, List.head?_cons, Option.some.injEq] at hc
      subst hc
      obtain ⟨h1, h2⟩ := sp3 d (by rw [hL]; rfl)
      exact hnotH d h2 h1
  have hme := matchBinExp_valid u k.exp hexp H (L ++ rest) sp2 hLH (tailHex u)
  have hsuf : floatSuffix u (L ++ rest) = L := by
    unfold floatSuffix
    apply takeWhile_app
    · intro c hc; simp [isW_of_word u (sp6 c hc)]
    · intro c hc
      obtain ⟨h1, _, _, _, _, h6, _⟩ := boundary_head u hb c hc
      simp [h1, h6]
  have hEhead : ∀ c, (k.exp.render ++ (H ++ (L ++ rest))).head? = some c → u.isH c = false ∧ c ≠ '.' := by
    intro c hc
    simp only [BinExp.render, List.cons_append, List.head?_cons, Option.some.injEq] at hc
    subst hc
    exact ⟨isP_not_isH u (isP_iff.mpr hexp.1), by rcases hexp.1 with h | h <;> rw [h] <;> decide⟩
  have hmant := hexMantissa_valid u k.ip k.frac (k.exp.render ++ (H ++ (L ++ rest))) hip hfr hEhead
  have hmh : ∀ c, (k.mant ++ (k.exp.render ++ (H ++ (L ++ rest)))).head? = some c → (c == 'x' || c == 'X') = false := by
    intro c hc
    unfold HexFloat.mant at hc
    cases hipl : k.ip with
    | cons a as =>
      rw [hipl] at hc; simp at hc; subst hc
      exact (hexbucket a (hip a (by rw [hipl]; simp))).2.1
    | nil =>
      rw [hipl] at hc
      cases hfrac : k.frac with
      | some fp => rw [hfrac] at hc; simp [fracText] at hc; subst hc; decide
      | none => rw [hfrac] at hfr; simp only [fracOK] at hfr; exact absurd hipl hfr
  have hmantb : ∀ c ∈ k.mant, (Generated.hexadecimalDigits.toList ++ ['.']).contains c = true := by
    intro c hc
    unfold HexFloat.mant at hc
    rcases List.mem_append.mp hc with h | h
    · exact (hexbucket c (hip c h)).1
    · cases hfrac : k.frac with
      | none => rw [hfrac] at h; simp [fracText] at h
      | some fp =>
        rw [hfrac] at h hfr
        simp only [fracOK] at hfr
        simp only [fracText] at h
        rcases List.mem_cons.mp h with rfl | h
        · decide
        · exact (hexbucket c (hfr.1 c h)).1
  have hcore := floatLogic_hex_core u line col k.x hx k.mant k.exp.render H L rest hmant hme hsuf hmh hmantb
    (by simp [BinExp.render]) (goodBinExponent_valid u k.exp hexp H) sp5 (by simpa using sp4)
  have hsrc : k.render ++ rest = '0' :: k.x :: (k.mant ++ (k.exp.render ++ (H ++ (L ++ rest)))) := by
    simp [HexFloat.render, ← sp1, List.append_assoc]
  refine ⟨⟨.hexadecimal, '0' :: k.x :: k.mant, k.exp.render ++ H, L⟩, by rw [hsrc]; exact hcore, ?_⟩
  simp [HexFloat.render, ← sp1, List.append_assoc]


theorem binExp_plain (x : BinExp) (hx : x.WF) : ∀ c ∈ x.render, plainChar c := by
  obtain ⟨hp, hsign, _, hdig⟩ := hx
  intro c hc
  simp only [BinExp.render, List.mem_cons, List.mem_append, Option.mem_toList] at hc
  rcases hc with rfl | hc | hc
  · rcases hp with h | h <;> rw [h] <;> (unfold plainChar; decide)
  · rcases hsign c hc with rfl | rfl <;> (unfold plainChar; decide)
  · exact plain_of_word (dec_sub_word (hdig c hc))

theorem hexFloat_plain (k : HexFloat) (hk : k.WF) : ∀ c ∈ k.render, plainChar c := by
  obtain ⟨hx, hip, hfr, hexp, hs⟩ := hk
  intro c hc
  simp only [HexFloat.render, HexFloat.mant, List.mem_cons, List.mem_append] at hc
  rcases hc with rfl | rfl | (hc | hc) | hc | hc
  · unfold plainChar; decide
  · rcases hx with h | h <;> rw [h] <;> (unfold plainChar; decide)
  · exact plain_of_word (hex_sub_word (hip c hc))
  · cases hfrac : k.frac with
    | none => rw [hfrac] at hc; simp [fracText] at hc
    | some fp =>
      rw [hfrac] at hc hfr
      simp only [fracText, List.mem_cons] at hc
      rcases hc with rfl | hc
      · unfold plainChar; decide
      · exact plain_of_word (hex_sub_word (hfr.1 c hc))
  · exact binExp_plain k.exp hexp c hc
  · exact plain_of_word ((fsuffix_facts hs).1 c hc)

/-- **A well-formed hexadecimal floating constant becomes one CONSTANT token spanning exactly the constant, with no
lexical diagnostic** — `0x`/`0X`, hexadecimal digit strings of any length with or without a dot (digits on at least one
side), the mandatory binary exponent (either letter, either sign or none, decimal digits), every suffix of the
standard, at any position, whatever follows (within `boundaryOK`). -/
theorem hexfloat_valid (u : Uni) (k : HexFloat) (hk : k.WF) (rest : List Char) (hb : boundaryOK rest)
    (s : LexSt) (hr : s.rest = k.render ++ rest) :
    ∃ s' t, trySubLexers u s = .ok (some (s', t)) ∧ t.type = "CONSTANT" ∧
      t.value = some (String.ofList k.render) ∧ t.line = s.line ∧ t.col = s.col ∧
      s'.rest = rest ∧ s'.diags = s.diags := by
  obtain ⟨m, hfl, hm⟩ := floatLogic_hex_valid u k hk rest hb s.line s.col
  have hlen : m.const.length + m.exp.length + m.suf.length = k.render.length := by
    rw [← hm]; simp [List.length_append]; omega
  obtain ⟨n1, n2, n3⟩ := popN_plain k.render rest s hr (hexFloat_plain k hk)
  have hpf : ∃ s', parseFloat u s = some (s', mkTok "CONSTANT" s s' (some k.render)) ∧ s'.rest = rest ∧ s'.diags = s.diags := by
    unfold parseFloat
    rw [hr]
    have hkr : k.render ++ rest = '0' :: (k.x :: (k.mant ++ (k.exp.render ++ k.sfx.toList)) ++ rest) := by
      simp [HexFloat.render]
    rw [hkr]
    simp only
    rw [← hkr, hfl]
    simp only [LexSt.addDiag?, hlen]
    cases hpn : popN k.render.length s with
    | mk s2 r2 =>
      rw [hpn] at n1 n2 n3
      simp only at n1 n2 n3
      subst n1
      exact ⟨s2, rfl, n2, n3⟩
  obtain ⟨s', h1, h2, h3⟩ := hpf
  refine ⟨s', mkTok "CONSTANT" s s' (some k.render), ?_, rfl, rfl, rfl, rfl, h2, h3⟩
  unfold trySubLexers
  rw [h1]

end Norm
