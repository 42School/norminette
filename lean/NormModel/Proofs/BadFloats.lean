/-
C11, malformed floating constants: an exponent without digits (`1e`, `1e+`, `1.5e-`, `.5E`, `1.e+`).
-/
import NormModel.Proofs.Floats
import NormModel.Proofs.HexFloats
namespace Norm
open Spec

/-- an exponent part that has no digits: the letter and an optional sign -/
structure BadExp where
  e : Char
  sign : Option Char
deriving Repr

def BadExp.WF (x : BadExp) : Prop := (x.e = 'e' ∨ x.e = 'E') ∧ ∀ s, x.sign = some s → s = '+' ∨ s = '-'
def BadExp.render (x : BadExp) : List Char := x.e :: x.sign.toList

/-- the members of the family "exponent without digits": `D+ Exp` and `D* . D+ Exp` / `D+ . Exp`, where `Exp` is
`[eE][+-]?` with nothing that could continue it -/
inductive BadExpFloat
  | exp (ip : List Char) (x : BadExp) (sfx : String)
  | frac (ip fp : List Char) (x : BadExp) (sfx : String)
deriving Repr

def BadExpFloat.WF : BadExpFloat → Prop
  | .exp ip x sfx => ip ≠ [] ∧ (∀ c ∈ ip, c ∈ decDigits) ∧ x.WF ∧ sfx ∈ Spec.floatSuffixes
  | .frac ip fp x sfx => (ip ≠ [] ∨ fp ≠ []) ∧ (∀ c ∈ ip, c ∈ decDigits) ∧ (∀ c ∈ fp, c ∈ decDigits) ∧
      x.WF ∧ sfx ∈ Spec.floatSuffixes

/-- the text before the exponent -/
def BadExpFloat.mant : BadExpFloat → List Char
  | .exp ip _ _ => ip
  | .frac ip fp _ _ => ip ++ '.' :: fp
def BadExpFloat.x : BadExpFloat → BadExp
  | .exp _ x _ => x
  | .frac _ _ x _ => x
def BadExpFloat.sfx : BadExpFloat → String
  | .exp _ _ s => s
  | .frac _ _ _ s => s
def BadExpFloat.kind : BadExpFloat → FloatKind
  | .exp .. => .exponent
  | .frac .. => .fractional
def BadExpFloat.render (k : BadExpFloat) : List Char := k.mant ++ k.x.render ++ k.sfx.toList

/-- the exponent group on an exponent part without digits: exactly the letter and the sign -/
theorem matchExp_nodigits (u : Uni) (x : BadExp) (hx : x.WF) (after : List Char)
    (ha : ∀ c, after.head? = some c → u.isD c = false ∧ isE c = false ∧ c ≠ '.' ∧ c ≠ '+' ∧ c ≠ '-') :
    matchExp isE u.isD (tailDec u) (x.render ++ after) = x.render := by
  obtain ⟨he, hsign⟩ := hx
  have hisE : isE x.e = true := by rcases he with h | h <;> rw [h] <;> decide
  have haE : after.takeWhile isE = [] := by
    cases after with
    | nil => rfl
    | cons c tl => simp [List.takeWhile, (ha c rfl).2.1]
  have haD : after.takeWhile u.isD = [] := by
    cases after with
    | nil => rfl
    | cons c tl => simp [List.takeWhile, (ha c rfl).1]
  have hatail : tailDec u after = 0 := by
    unfold tailDec
    cases after with
    | nil => rfl
    | cons c tl =>
      obtain ⟨h1, _, h3, _, _⟩ := ha c rfl
      have h3' : (c == '.') = false := by simp [h3]
      simp [List.takeWhile, h1, h3']
  have hiter0 : ∀ fuel, expIter isE (tailDec u) fuel after = [] := by
    intro fuel
    cases fuel with
    | zero => rfl
    | succ fuel =>
      unfold expIter
      cases after with
      | nil => rfl
      | cons c tl => simp [(ha c rfl).2.1]
  unfold matchExp spanP BadExp.render
  cases hs : x.sign with
  | none =>
    simp only [Option.toList_none, List.cons_append, List.nil_append]
    have h1 : (x.e :: after).takeWhile isE = [x.e] := by simp [List.takeWhile_cons, hisE, haE]
    have h2 : (x.e :: after).dropWhile isE = after := by
      rw [List.dropWhile_cons]; simp only [hisE, ↓reduceIte]
      cases after with
      | nil => rfl
      | cons c tl => simp [List.dropWhile_cons, (ha c rfl).2.1]
    simp only [h1, h2, List.isEmpty_cons, Bool.false_eq_true, ↓reduceIte]
    cases after with
    | nil =>
      simp only [List.takeWhile_nil, List.isEmpty_nil, Bool.not_true, Bool.false_eq_true, ↓reduceIte]
      simp [expIter, hisE, tailDec]
    | cons c tl =>
      obtain ⟨_, _, _, h4, h5⟩ := ha c rfl
      have hns : (c == '+' || c == '-') = false := by simp [h4, h5]
      simp only [hns, Bool.false_eq_true, ↓reduceIte, haD, List.isEmpty_nil, Bool.not_true]
      unfold expIter
      simp only [hisE, ↓reduceIte, hns, Bool.false_eq_true, hatail, List.take_zero, List.drop_zero, List.append_nil]
      rw [hiter0]
      simp
  | some sg =>
    have hsg := hsign sg hs
    have hsgE : isE sg = false := by rcases hsg with rfl | rfl <;> decide
    have hsgD : u.isD sg = false := by
      rcases hsg with rfl | rfl <;> exact isD_punct u (by decide)
    have hsgb : (sg == '+' || sg == '-') = true := by rcases hsg with rfl | rfl <;> decide
    simp only [Option.toList_some, List.cons_append, List.nil_append]
    have h1 : (x.e :: sg :: after).takeWhile isE = [x.e] := by simp [List.takeWhile, hisE, hsgE]
    have h2 : (x.e :: sg :: after).dropWhile isE = sg :: after := by simp [List.dropWhile, hisE, hsgE]
    simp only [h1, h2, List.isEmpty_cons, Bool.false_eq_true, ↓reduceIte, hsgb, haD, List.isEmpty_nil]
    have hD2 : (sg :: after).takeWhile u.isD = [] := by simp [List.takeWhile, hsgD]
    simp only [hD2, List.isEmpty_nil, Bool.not_true, Bool.false_eq_true, ↓reduceIte]
    unfold expIter
    simp only [hisE, ↓reduceIte, hsgb, hatail, List.take_zero, List.drop_zero, List.append_nil]
    rw [hiter0]
    simp

theorem goodExponent_nodigits (u : Uni) (x : BadExp) (hx : x.WF) : goodExponent u x.render = false := by
  obtain ⟨he, hsign⟩ := hx
  have hisE : isE x.e = true := by rcases he with h | h <;> rw [h] <;> decide
  unfold goodExponent BadExp.render
  cases hs : x.sign with
  | none => simp [hisE]
  | some sg =>
    have hsgb : (sg == '+' || sg == '-') = true := by rcases hsign sg hs with rfl | rfl <;> decide
    simp [hisE, hsgb]

/-- **The float parser on a constant whose exponent has no digits**: a match whose groups spell the constant, and
BAD_EXPONENT on the exponent (from its letter to the end of the constant). -/
theorem floatLogic_bad_exp (u : Uni) (k : BadExpFloat) (hk : k.WF) (rest : List Char) (hb : boundaryOK rest)
    (line col : Nat) :
    floatLogic u line col (k.render ++ rest) =
      .tok ⟨k.kind, k.mant, k.x.render, k.sfx.toList⟩
        (some (mkDiag "BAD_EXPONENT" .error
          [⟨line, col + k.mant.length, some (k.x.render.length + k.sfx.toList.length), none⟩])) := by
  cases k with
  | exp ip x sfx =>
    obtain ⟨hipne, hip, hx, hs⟩ := hk
    have haf := after_float u hs hb
    have hxd : u.isD x.e = false := isE_not_isD u (isE_iff.mpr hx.1)
    have hipD : ∀ c ∈ ip, u.isD c = true := fun c hc => (dec_facts u (hip c hc)).1
    have hsrc : BadExpFloat.render (.exp ip x sfx) ++ rest = ip ++ (x.render ++ (sfx.toList ++ rest)) := by
      simp [BadExpFloat.render, BadExpFloat.mant, BadExpFloat.x, BadExpFloat.sfx, List.append_assoc]
    have hhead : ∀ c, (x.render ++ (sfx.toList ++ rest)).head? = some c → u.isD c = false := by
      intro c hc; simp [BadExp.render] at hc; subst hc; exact hxd
    have htw : (ip ++ (x.render ++ (sfx.toList ++ rest))).takeWhile u.isD = ip := takeWhile_app hipD hhead
    have hdw : (ip ++ (x.render ++ (sfx.toList ++ rest))).dropWhile u.isD = x.render ++ (sfx.toList ++ rest) :=
      dropWhile_app hipD hhead
    have hme := matchExp_nodigits u x hx (sfx.toList ++ rest) haf
    have hm : matchFloatExp u (ip ++ (x.render ++ (sfx.toList ++ rest))) =
        some ⟨.exponent, ip, x.render, sfx.toList⟩ := by
      unfold matchFloatExp spanP
      simp only [htw, hdw, hme]
      have h1 : ip.isEmpty = false := by cases ip with | nil => exact absurd rfl hipne | cons a b => rfl
      have h2 : x.render.isEmpty = false := by simp [BadExp.render]
      simp only [h1, h2, Bool.false_eq_true, ↓reduceIte, List.drop_left', floatSuffix_valid u hs hb]
    rw [hsrc]
    unfold floatLogic
    simp only [hm]
    have hge := goodExponent_nodigits u x hx
    have h2 : x.render.isEmpty = false := by simp [BadExp.render]
    simp [hge, h2, BadExpFloat.mant, BadExpFloat.x, BadExpFloat.sfx, BadExpFloat.kind]
  | frac ip fp x sfx =>
    obtain ⟨hne, hip, hfp, hx, hs⟩ := hk
    have haf := after_float u hs hb
    have hipD : ∀ c ∈ ip, u.isD c = true := fun c hc => (dec_facts u (hip c hc)).1
    have hfpD : ∀ c ∈ fp, u.isD c = true := fun c hc => (dec_facts u (hfp c hc)).1
    have hxd : u.isD x.e = false := isE_not_isD u (isE_iff.mpr hx.1)
    have hXhead : ∀ c, (x.render ++ (sfx.toList ++ rest)).head? = some c → u.isD c = false := by
      intro c hc; simp [BadExp.render] at hc; subst hc; exact hxd
    have hsrc : BadExpFloat.render (.frac ip fp x sfx) ++ rest = ip ++ ('.' :: (fp ++ (x.render ++ (sfx.toList ++ rest)))) := by
      simp [BadExpFloat.render, BadExpFloat.mant, BadExpFloat.x, BadExpFloat.sfx, List.append_assoc]
    have hdot : ∀ c, ('.' :: (fp ++ (x.render ++ (sfx.toList ++ rest)))).head? = some c → u.isD c = false := by
      intro c hc; simp at hc; subst hc
      exact isD_punct u (by decide)
    have htw : (ip ++ ('.' :: (fp ++ (x.render ++ (sfx.toList ++ rest))))).takeWhile u.isD = ip := takeWhile_app hipD hdot
    have hdw : (ip ++ ('.' :: (fp ++ (x.render ++ (sfx.toList ++ rest))))).dropWhile u.isD = '.' :: (fp ++ (x.render ++ (sfx.toList ++ rest))) :=
      dropWhile_app hipD hdot
    have hfs : (fp ++ (x.render ++ (sfx.toList ++ rest))).takeWhile u.isD = fp := takeWhile_app hfpD hXhead
    have hme := matchExp_nodigits u x hx (sfx.toList ++ rest) haf
    have hm1 : matchFloatExp u (ip ++ ('.' :: (fp ++ (x.render ++ (sfx.toList ++ rest))))) = none := by
      unfold matchFloatExp spanP
      simp only [htw, hdw]
      split
      · rfl
      · have : matchExp isE u.isD (tailDec u) ('.' :: (fp ++ (x.render ++ (sfx.toList ++ rest)))) = [] := by
          unfold matchExp spanP
          simp [List.takeWhile, isE_facts.2.2.2.2.2]
        simp [this]
    have hm2 : matchFloatFrac u (ip ++ ('.' :: (fp ++ (x.render ++ (sfx.toList ++ rest))))) =
        some ⟨.fractional, ip ++ '.' :: fp, x.render, sfx.toList⟩ := by
      unfold matchFloatFrac spanP
      simp only [htw, hdw, hfs]
      cases hfe : fp with
      | nil =>
        have hipne : ip.isEmpty = false := by
          rcases hne with h | h
          · cases ip with | nil => exact absurd rfl h | cons a b => rfl
          · exact absurd hfe h
        simp only [List.isEmpty_nil, Bool.not_true, Bool.false_eq_true, ↓reduceIte, hipne, Bool.not_false,
          List.nil_append]
        simp [hme, floatSuffix_valid u hs hb]
      | cons f0 fs =>
        simp only [List.isEmpty_cons, Bool.not_false, ↓reduceIte]
        have hdrop : (f0 :: fs ++ (x.render ++ (sfx.toList ++ rest))).drop (f0 :: fs).length = x.render ++ (sfx.toList ++ rest) := by
          simp
        rw [hdrop]
        simp only [hme, List.drop_left', floatSuffix_valid u hs hb]
    rw [hsrc]
    unfold floatLogic
    simp only [hm1, hm2]
    have hge := goodExponent_nodigits u x hx
    have h2 : x.render.isEmpty = false := by simp [BadExp.render]
    simp [hge, h2, BadExpFloat.mant, BadExpFloat.x, BadExpFloat.sfx, BadExpFloat.kind]

theorem badExpFloat_plain (k : BadExpFloat) (hk : k.WF) : ∀ c ∈ k.render, plainChar c := by
  have hxp : ∀ x : BadExp, x.WF → ∀ c ∈ x.render, plainChar c := by
    intro x hx c hc
    obtain ⟨he, hsign⟩ := hx
    simp only [BadExp.render, List.mem_cons, Option.mem_toList] at hc
    rcases hc with rfl | hc
    · rcases he with h | h <;> rw [h] <;> (unfold plainChar; decide)
    · rcases hsign c hc with rfl | rfl <;> (unfold plainChar; decide)
  cases k with
  | exp ip x sfx =>
    obtain ⟨_, hip, hx, hs⟩ := hk
    intro c hc
    simp only [BadExpFloat.render, BadExpFloat.mant, BadExpFloat.x, BadExpFloat.sfx, List.mem_append] at hc
    rcases hc with (hc | hc) | hc
    · exact plain_of_word (dec_sub_word (hip c hc))
    · exact hxp x hx c hc
    · exact plain_of_word ((fsuffix_facts hs).1 c hc)
  | frac ip fp x sfx =>
    obtain ⟨_, hip, hfp, hx, hs⟩ := hk
    intro c hc
    simp only [BadExpFloat.render, BadExpFloat.mant, BadExpFloat.x, BadExpFloat.sfx, List.mem_append, List.mem_cons] at hc
    rcases hc with ((hc | rfl | hc) | hc) | hc
    · exact plain_of_word (dec_sub_word (hip c hc))
    · unfold plainChar; decide
    · exact plain_of_word (dec_sub_word (hfp c hc))
    · exact hxp x hx c hc
    · exact plain_of_word ((fsuffix_facts hs).1 c hc)

/-- **Malformed family "exponent without digits"**: one CONSTANT token spanning the whole text, and exactly one
diagnostic added, BAD_EXPONENT, highlighted from the exponent letter to the end of the constant. -/
theorem bad_exponent_reported (u : Uni) (k : BadExpFloat) (hk : k.WF) (rest : List Char) (hb : boundaryOK rest)
    (s : LexSt) (hr : s.rest = k.render ++ rest) :
    ∃ s' t, trySubLexers u s = .ok (some (s', t)) ∧ t.type = "CONSTANT" ∧
      t.value = some (String.ofList k.render) ∧ t.line = s.line ∧ t.col = s.col ∧
      s'.rest = rest ∧
      s'.diags = s.diags ++ [mkDiag "BAD_EXPONENT" .error
        [⟨s.line, s.col + k.mant.length, some (k.x.render.length + k.sfx.toList.length), none⟩]] := by
  have hfl := floatLogic_bad_exp u k hk rest hb s.line s.col
  have hlen : k.mant.length + k.x.render.length + k.sfx.toList.length = k.render.length := by
    simp [BadExpFloat.render, List.length_append]; omega
  have hne : k.render ≠ [] := by
    simp [BadExpFloat.render, BadExp.render]
  let d := mkDiag "BAD_EXPONENT" .error
        [⟨s.line, s.col + k.mant.length, some (k.x.render.length + k.sfx.toList.length), none⟩]
  obtain ⟨n1, n2, n3⟩ := popN_plain k.render rest (s.addDiag d) hr (badExpFloat_plain k hk)
  have hpf : ∃ s', parseFloat u s = some (s', mkTok "CONSTANT" s s' (some k.render)) ∧ s'.rest = rest ∧
      s'.diags = s.diags ++ [d] := by
    unfold parseFloat
    rw [hr]
    cases hkr : k.render ++ rest with
    | nil =>
      exfalso
      have := congrArg List.length hkr
      simp only [List.length_append, List.length_nil] at this
      have : k.render.length = 0 := by omega
      exact hne (List.eq_nil_of_length_eq_zero this)
    | cons c0 tl0 =>
      simp only
      rw [← hkr, hfl]
      simp only [LexSt.addDiag?, hlen]
      cases hpn : popN k.render.length (s.addDiag d) with
      | mk s2 r2 =>
        rw [hpn] at n1 n2 n3
        simp only at n1 n2 n3
        subst n1
        exact ⟨s2, rfl, n2, by rw [n3]; rfl⟩
  obtain ⟨s', h1, h2, h3⟩ := hpf
  refine ⟨s', mkTok "CONSTANT" s s' (some k.render), ?_, rfl, rfl, rfl, rfl, h2, h3⟩
  unfold trySubLexers
  rw [h1]

/-! ### several dots -/

theorem dotword_facts (u : Uni) {c : Char} (h : c ∈ wordChars ∨ c = '.') : (u.isW c || c == '.') = true := by
  rcases h with h | rfl
  · simp [isW_of_word u h]
  · simp

theorem dotword_plain {c : Char} (h : c ∈ wordChars ∨ c = '.') : plainChar c := by
  rcases h with h | rfl
  · exact plain_of_word h
  · unfold plainChar; decide

/-- **The float parser on `D*.D*` followed by a further dot** (and any run of letters, digits, underscores and dots):
one match whose suffix group holds everything from the second dot on, and MULTIPLE_DOTS on it. -/
theorem floatLogic_dots (u : Uni) (ip fp more : List Char) (hne : ip ≠ [] ∨ fp ≠ [])
    (hip : ∀ c ∈ ip, c ∈ decDigits) (hfp : ∀ c ∈ fp, c ∈ decDigits) (hmore : ∀ c ∈ more, c ∈ wordChars ∨ c = '.')
    (rest : List Char) (hb : boundaryOK rest) (line col : Nat) :
    floatLogic u line col (ip ++ '.' :: fp ++ '.' :: more ++ rest) =
      .tok ⟨.fractional, ip ++ '.' :: fp, [], '.' :: more⟩
        (some (mkDiag "MULTIPLE_DOTS" .error [⟨line, col + (ip ++ '.' :: fp).length, some ('.' :: more).length, none⟩])) := by
  have hipD : ∀ c ∈ ip, u.isD c = true := fun c hc => (dec_facts u (hip c hc)).1
  have hfpD : ∀ c ∈ fp, u.isD c = true := fun c hc => (dec_facts u (hfp c hc)).1
  have hdotD : u.isD '.' = false := isD_punct u (by decide)
  have hsrc : ip ++ '.' :: fp ++ '.' :: more ++ rest = ip ++ ('.' :: (fp ++ ('.' :: (more ++ rest)))) := by
    simp [List.append_assoc]
  have hdot : ∀ c, ('.' :: (fp ++ ('.' :: (more ++ rest)))).head? = some c → u.isD c = false := by
    intro c hc; simp at hc; subst hc; exact hdotD
  have hdot2 : ∀ c, ('.' :: (more ++ rest)).head? = some c → u.isD c = false := by
    intro c hc; simp at hc; subst hc; exact hdotD
  have htw : (ip ++ ('.' :: (fp ++ ('.' :: (more ++ rest))))).takeWhile u.isD = ip := takeWhile_app hipD hdot
  have hdw : (ip ++ ('.' :: (fp ++ ('.' :: (more ++ rest))))).dropWhile u.isD = '.' :: (fp ++ ('.' :: (more ++ rest))) :=
    dropWhile_app hipD hdot
  have hfs : (fp ++ ('.' :: (more ++ rest))).takeWhile u.isD = fp := takeWhile_app hfpD hdot2
  have hme : matchExp isE u.isD (tailDec u) ('.' :: (more ++ rest)) = [] := by
    unfold matchExp spanP
    simp [List.takeWhile, isE_facts.2.2.2.2.2]
  have hsuf : floatSuffix u ('.' :: (more ++ rest)) = '.' :: more := by
    unfold floatSuffix
    have := takeWhile_app (p := fun c => u.isW c || c == '.') (s := '.' :: more) (rest := rest)
      (by
        intro c hc
        rcases List.mem_cons.mp hc with rfl | hc
        · simp
        · exact dotword_facts u (hmore c hc))
      (by
        intro c hc
        obtain ⟨h1, _, _, _, _, h6, _⟩ := boundary_head u hb c hc
        simp [h1, h6])
    simpa using this
  have hm1 : matchFloatExp u (ip ++ ('.' :: (fp ++ ('.' :: (more ++ rest))))) = none := by
    unfold matchFloatExp spanP
    simp only [htw, hdw]
    split
    · rfl
    · have : matchExp isE u.isD (tailDec u) ('.' :: (fp ++ ('.' :: (more ++ rest)))) = [] := by
        unfold matchExp spanP
        simp [List.takeWhile, isE_facts.2.2.2.2.2]
      simp [this]
  have hm2 : matchFloatFrac u (ip ++ ('.' :: (fp ++ ('.' :: (more ++ rest))))) =
      some ⟨.fractional, ip ++ '.' :: fp, [], '.' :: more⟩ := by
    unfold matchFloatFrac spanP
    simp only [htw, hdw, hfs]
    cases hfe : fp with
    | nil =>
      have hipne : ip.isEmpty = false := by
        rcases hne with h | h
        · cases ip with | nil => exact absurd rfl h | cons a b => rfl
        · exact absurd hfe h
      simp only [List.isEmpty_nil, Bool.not_true, Bool.false_eq_true, ↓reduceIte, hipne, Bool.not_false,
        List.nil_append]
      simp [hme, hsuf]
    | cons f0 fs =>
      simp only [List.isEmpty_cons, Bool.not_false, ↓reduceIte]
      have hdrop : (f0 :: fs ++ ('.' :: (more ++ rest))).drop (f0 :: fs).length = '.' :: (more ++ rest) := by
        simp
      rw [hdrop]
      simp only [hme, List.length_nil, List.drop_zero, hsuf]
  rw [hsrc]
  unfold floatLogic
  simp only [hm1, hm2]
  have hc1 : (ip ++ '.' :: fp).count '.' = 1 := by
    rw [List.count_append, List.count_cons_self, count_dot_digits ip hip, count_dot_digits fp hfp]
  simp [hc1]

/-- **Malformed family "several dots"**: `D*.D*` (at least one digit) directly followed by another dot and any run of
letters, digits, underscores and dots — `1.2.3`, `1..5`, `.5.`, `3.14.15f` —: one CONSTANT token spanning the whole
text, and exactly one diagnostic added, MULTIPLE_DOTS, highlighted from the second dot to the end. -/
theorem multiple_dots_reported (u : Uni) (ip fp more : List Char) (hne : ip ≠ [] ∨ fp ≠ [])
    (hip : ∀ c ∈ ip, c ∈ decDigits) (hfp : ∀ c ∈ fp, c ∈ decDigits) (hmore : ∀ c ∈ more, c ∈ wordChars ∨ c = '.')
    (rest : List Char) (hb : boundaryOK rest) (s : LexSt) (hr : s.rest = ip ++ '.' :: fp ++ '.' :: more ++ rest) :
    ∃ s' t, trySubLexers u s = .ok (some (s', t)) ∧ t.type = "CONSTANT" ∧
      t.value = some (String.ofList (ip ++ '.' :: fp ++ '.' :: more)) ∧ t.line = s.line ∧ t.col = s.col ∧
      s'.rest = rest ∧
      s'.diags = s.diags ++ [mkDiag "MULTIPLE_DOTS" .error
        [⟨s.line, s.col + (ip ++ '.' :: fp).length, some ('.' :: more).length, none⟩]] := by
  have hfl := floatLogic_dots u ip fp more hne hip hfp hmore rest hb s.line s.col
  let txt := ip ++ '.' :: fp ++ '.' :: more
  have hlen : (ip ++ '.' :: fp).length + ([] : List Char).length + ('.' :: more).length = txt.length := by
    simp [txt, List.length_append]; omega
  have hplain : ∀ c ∈ txt, plainChar c := by
    intro c hc
    simp only [txt, List.mem_append, List.mem_cons] at hc
    rcases hc with (hc | rfl | hc) | rfl | hc
    · exact plain_of_word (dec_sub_word (hip c hc))
    · unfold plainChar; decide
    · exact plain_of_word (dec_sub_word (hfp c hc))
    · unfold plainChar; decide
    · exact dotword_plain (hmore c hc)
  let d := mkDiag "MULTIPLE_DOTS" .error [⟨s.line, s.col + (ip ++ '.' :: fp).length, some ('.' :: more).length, none⟩]
  have hr' : (s.addDiag d).rest = txt ++ rest := by simpa [LexSt.addDiag, txt] using hr
  obtain ⟨n1, n2, n3⟩ := popN_plain txt rest (s.addDiag d) hr' hplain
  have hpf : ∃ s', parseFloat u s = some (s', mkTok "CONSTANT" s s' (some txt)) ∧ s'.rest = rest ∧
      s'.diags = s.diags ++ [d] := by
    unfold parseFloat
    rw [hr]
    cases hkr : ip ++ '.' :: fp ++ '.' :: more ++ rest with
    | nil =>
      exfalso
      have := congrArg List.length hkr
      simp at this
    | cons c0 tl0 =>
      simp only
      rw [← hkr, hfl]
      simp only [LexSt.addDiag?, hlen]
      cases hpn : popN txt.length (s.addDiag d) with
      | mk s2 r2 =>
        rw [hpn] at n1 n2 n3
        simp only at n1 n2 n3
        subst n1
        exact ⟨s2, rfl, n2, by rw [n3]; rfl⟩
  obtain ⟨s', h1, h2, h3⟩ := hpf
  refine ⟨s', mkTok "CONSTANT" s s' (some txt), ?_, rfl, rfl, rfl, rfl, h2, h3⟩
  unfold trySubLexers
  rw [h1]

/-! ### hexadecimal floating constants whose binary exponent has no digits -/

/-- the exponent group of the hexadecimal pattern on `[pP][+-]?` followed by something that cannot continue it -/
theorem matchBinExp_nodigits (u : Uni) (p : Char) (hp : p = 'p' ∨ p = 'P') (sign : Option Char)
    (hsign : ∀ s, sign = some s → s = '+' ∨ s = '-') (after : List Char)
    (ha : ∀ c, after.head? = some c → u.isH c = false ∧ isP c = false ∧ c ≠ '.' ∧ c ≠ '+' ∧ c ≠ '-') :
    matchExp isP u.isH (tailHex u) (p :: sign.toList ++ after) = p :: sign.toList := by
  have hisP : isP p = true := by rcases hp with h | h <;> rw [h] <;> decide
  have haD : after.takeWhile u.isH = [] := by
    cases after with
    | nil => rfl
    | cons c tl => simp [List.takeWhile, (ha c rfl).1]
  have hatail : tailHex u after = 0 := by
    unfold tailHex
    cases after with
    | nil => rfl
    | cons c tl =>
      obtain ⟨h1, _, h3, _, _⟩ := ha c rfl
      have h3' : (c == '.') = false := by simp [h3]
      simp [List.takeWhile, h1, h3']
  have hiter0 : ∀ fuel, expIter isP (tailHex u) fuel after = [] := by
    intro fuel
    cases fuel with
    | zero => rfl
    | succ fuel =>
      unfold expIter
      cases after with
      | nil => rfl
      | cons c tl => simp [(ha c rfl).2.1]
  unfold matchExp spanP
  cases hs : sign with
  | none =>
    simp only [Option.toList_none, List.cons_append, List.nil_append]
    have h1 : (p :: after).takeWhile isP = [p] := by
      cases after with
      | nil => simp [List.takeWhile, hisP]
      | cons c tl => simp [List.takeWhile, hisP, (ha c rfl).2.1]
    have h2 : (p :: after).dropWhile isP = after := by
      rw [List.dropWhile_cons]; simp only [hisP, ↓reduceIte]
      cases after with
      | nil => rfl
      | cons c tl => simp [List.dropWhile_cons, (ha c rfl).2.1]
    simp only [h1, h2, List.isEmpty_cons, Bool.false_eq_true, ↓reduceIte]
    cases after with
    | nil =>
      simp only [List.takeWhile_nil, List.isEmpty_nil, Bool.not_true, Bool.false_eq_true, ↓reduceIte]
      simp [expIter, hisP, tailHex]
    | cons c tl =>
      obtain ⟨_, _, _, h4, h5⟩ := ha c rfl
      have hns : (c == '+' || c == '-') = false := by simp [h4, h5]
      simp only [hns, Bool.false_eq_true, ↓reduceIte, haD, List.isEmpty_nil, Bool.not_true]
      unfold expIter
      simp only [hisP, ↓reduceIte, hns, Bool.false_eq_true, hatail, List.take_zero, List.drop_zero, List.append_nil]
      rw [hiter0]
      simp
  | some sg =>
    have hsg := hsign sg hs
    have hsgP : isP sg = false := by rcases hsg with rfl | rfl <;> decide
    have hsgD : u.isH sg = false := by
      rcases hsg with rfl | rfl <;> exact isH_punct u (by decide)
    have hsgb : (sg == '+' || sg == '-') = true := by rcases hsg with rfl | rfl <;> decide
    simp only [Option.toList_some, List.cons_append, List.nil_append]
    have h1 : (p :: sg :: after).takeWhile isP = [p] := by simp [List.takeWhile, hisP, hsgP]
    have h2 : (p :: sg :: after).dropWhile isP = sg :: after := by simp [List.dropWhile, hisP, hsgP]
    simp only [h1, h2, List.isEmpty_cons, Bool.false_eq_true, ↓reduceIte, hsgb, haD, List.isEmpty_nil]
    have hD2 : (sg :: after).takeWhile u.isH = [] := by simp [List.takeWhile, hsgD]
    simp only [hD2, List.isEmpty_nil, Bool.not_true, Bool.false_eq_true, ↓reduceIte]
    unfold expIter
    simp only [hisP, ↓reduceIte, hsgb, hatail, List.take_zero, List.drop_zero, List.append_nil]
    rw [hiter0]
    simp

theorem goodBinExponent_nodigits (u : Uni) (p : Char) (hp : p = 'p' ∨ p = 'P') (sign : Option Char)
    (hsign : ∀ s, sign = some s → s = '+' ∨ s = '-') : goodBinExponent u (p :: sign.toList) = false := by
  have hisP : isP p = true := by rcases hp with h | h <;> rw [h] <;> decide
  unfold goodBinExponent
  cases hs : sign with
  | none => simp [hisP]
  | some sg =>
    have hsgb : (sg == '+' || sg == '-') = true := by rcases hsign sg hs with rfl | rfl <;> decide
    simp [hisP, hsgb]

/-- the float parser, once the mantissa, the exponent group (without digits) and the suffix group are known -/
theorem floatLogic_hex_badexp (u : Uni) (line col : Nat) (x : Char) (hx : x = 'x' ∨ x = 'X') (mant E L rest : List Char)
    (hmant : hexMantissa u (mant ++ (E ++ (L ++ rest))) = some (mant, E ++ (L ++ rest)))
    (hme : matchExp isP u.isH (tailHex u) (E ++ (L ++ rest)) = E)
    (hsuf : floatSuffix u (L ++ rest) = L)
    (hmh : ∀ c, (mant ++ (E ++ (L ++ rest))).head? = some c → (c == 'x' || c == 'X') = false)
    (hmantb : ∀ c ∈ mant, (Generated.hexadecimalDigits.toList ++ ['.']).contains c = true)
    (hEne : E.isEmpty = false) (hbad : goodBinExponent u E = false) :
    floatLogic u line col ('0' :: x :: (mant ++ (E ++ (L ++ rest)))) =
      .tok ⟨.hexadecimal, '0' :: x :: mant, E, L⟩
        (some (mkDiag "BAD_EXPONENT" .error [⟨line, col + ('0' :: x :: mant).length, some (E.length + L.length), none⟩])) := by
  obtain ⟨x1, x2, x3, x4, x5, x6⟩ := x_facts u hx
  have h0 : u.isD '0' = true := isD_of_dec u zero_dec
  have htwD : ('0' :: x :: (mant ++ (E ++ (L ++ rest)))).takeWhile u.isD = ['0'] := by
    simp only [List.takeWhile_cons, h0, x1, ↓reduceIte, Bool.false_eq_true]
  have hdwD : ('0' :: x :: (mant ++ (E ++ (L ++ rest)))).dropWhile u.isD = x :: (mant ++ (E ++ (L ++ rest))) := by
    simp only [List.dropWhile_cons, h0, x1, ↓reduceIte, Bool.false_eq_true]
  have hm1 : matchFloatExp u ('0' :: x :: (mant ++ (E ++ (L ++ rest)))) = none := by
    unfold matchFloatExp spanP
    simp only [htwD, hdwD]
    have : matchExp isE u.isD (tailDec u) (x :: (mant ++ (E ++ (L ++ rest)))) = [] :=
      matchExp_nil (by intro c hc; simp at hc; subst hc; exact x3)
    simp [this]
  have hm2 : matchFloatFrac u ('0' :: x :: (mant ++ (E ++ (L ++ rest)))) = none := by
    unfold matchFloatFrac spanP
    simp only [htwD, hdwD]
    split
    · rfl
    · rename_i c r hc
      split at hc
      · rename_i r' heq
        simp only [List.cons.injEq] at heq
        exact absurd heq.1 x4
      · cases hc
  have hm3 : matchFloatHex u ('0' :: x :: (mant ++ (E ++ (L ++ rest)))) =
      some ⟨.hexadecimal, '0' :: x :: mant, E, L⟩ := by
    unfold matchFloatHex
    simp only
    have tx : (x :: (mant ++ (E ++ (L ++ rest)))).takeWhile (fun c => c == 'x' || c == 'X') = [x] := by
      have := takeWhile_app (p := fun c => c == 'x' || c == 'X') (s := [x]) (rest := mant ++ (E ++ (L ++ rest)))
        (by intro c hc; simp at hc; subst hc; exact x5) hmh
      simpa using this
    have dx : (x :: (mant ++ (E ++ (L ++ rest)))).dropWhile (fun c => c == 'x' || c == 'X') = mant ++ (E ++ (L ++ rest)) := by
      have := dropWhile_app (p := fun c => c == 'x' || c == 'X') (s := [x]) (rest := mant ++ (E ++ (L ++ rest)))
        (by intro c hc; simp at hc; subst hc; exact x5) hmh
      simpa using this
    rw [tx, dx, hmant]
    simp only [hme]
    have : (E ++ (L ++ rest)).drop E.length = L ++ rest := by simp
    rw [this, hsuf]
    simp
  unfold floatLogic
  simp only [hm1, hm2, hm3]
  have hstrip := strip_hexconst x hx mant hmantb
  simp [hEne, hstrip, hbad]
  intro h1 h2
  rcases hx with h | h
  · exact absurd h h1
  · exact absurd h h2

/-- the members of the family: `0[xX]`, a hexadecimal mantissa, `[pP][+-]?`, and `l`/`L` or nothing -/
structure BadHexFloat where
  x : Char
  ip : List Char
  frac : Option (List Char)
  p : Char
  sign : Option Char
  sfx : String
deriving Repr

def BadHexFloat.WF (k : BadHexFloat) : Prop :=
  (k.x = 'x' ∨ k.x = 'X') ∧ (∀ c ∈ k.ip, c ∈ hexDigits) ∧ fracOK k.ip k.frac ∧ (k.p = 'p' ∨ k.p = 'P') ∧
  (∀ s, k.sign = some s → s = '+' ∨ s = '-') ∧ (k.sfx = "" ∨ k.sfx = "l" ∨ k.sfx = "L")
def BadHexFloat.mant (k : BadHexFloat) : List Char := k.ip ++ fracText k.frac
def BadHexFloat.exp (k : BadHexFloat) : List Char := k.p :: k.sign.toList
def BadHexFloat.render (k : BadHexFloat) : List Char := '0' :: k.x :: (k.mant ++ (k.exp ++ k.sfx.toList))

theorem floatLogic_badhex (u : Uni) (k : BadHexFloat) (hk : k.WF) (rest : List Char) (hb : boundaryOK rest)
    (line col : Nat) :
    floatLogic u line col (k.render ++ rest) =
      .tok ⟨.hexadecimal, '0' :: k.x :: k.mant, k.exp, k.sfx.toList⟩
        (some (mkDiag "BAD_EXPONENT" .error
          [⟨line, col + ('0' :: k.x :: k.mant).length, some (k.exp.length + k.sfx.toList.length), none⟩])) := by
  obtain ⟨hx, hip, hfr, hp, hsign, hs⟩ := hk
  have hLw : ∀ c ∈ k.sfx.toList, c ∈ wordChars := by
    unfold wordChars; rw [String.toList_ofList]
    rcases hs with h | h | h <;> rw [h] <;> decide
  have hLhead : ∀ c, (k.sfx.toList ++ rest).head? = some c → u.isH c = false ∧ isP c = false ∧ c ≠ '.' ∧ c ≠ '+' ∧ c ≠ '-' := by
    intro c hc
    cases hl : k.sfx.toList with
    | nil =>
      rw [hl] at hc; simp only [List.nil_append] at hc
      obtain ⟨h1, _, h3, _, _, h6, h7, h8⟩ := boundary_head u hb c hc
      refine ⟨h3, ?_, h6, h7, h8⟩
      cases hpc : isP c
      · rfl
      · exfalso
        have : u.isW c = true := isW_of_word u (letters_sub_word (isP_letter hpc))
        rw [h1] at this; cases this
    | cons d tl =>
      rw [hl] at hc; simp only [List.cons_append, List.head?_cons, Option.some.injEq] at hc
      have : d = 'l' ∨ d = 'L' := by
        rcases hs with h | h | h <;> rw [h] at hl <;> simp at hl
        · exact Or.inl hl.1.symm
        · exact Or.inr hl.1.symm
      subst hc
      have hl : d ∈ asciiLetters ∧ d ∉ hexLetters := by
        unfold asciiLetters hexLetters; rw [String.toList_ofList, String.toList_ofList]
        rcases this with rfl | rfl <;> decide
      exact ⟨isH_not_hex u (letters_sub_word hl.1) (not_hex_of_letter hl.1 hl.2),
        by rcases this with rfl | rfl <;> decide, by rcases this with rfl | rfl <;> decide,
        by rcases this with rfl | rfl <;> decide, by rcases this with rfl | rfl <;> decide⟩
  have hme := matchBinExp_nodigits u k.p hp k.sign hsign (k.sfx.toList ++ rest) hLhead
  have hsuf : floatSuffix u (k.sfx.toList ++ rest) = k.sfx.toList := by
    unfold floatSuffix
    apply takeWhile_app
    · intro c hc; simp [isW_of_word u (hLw c hc)]
    · intro c hc
      obtain ⟨h1, _, _, _, _, h6, _⟩ := boundary_head u hb c hc
      simp [h1, h6]
  have hEhead : ∀ c, (k.exp ++ (k.sfx.toList ++ rest)).head? = some c → u.isH c = false ∧ c ≠ '.' := by
    intro c hc
    simp only [BadHexFloat.exp, List.cons_append, List.head?_cons, Option.some.injEq] at hc
    subst hc
    exact ⟨isP_not_isH u (isP_iff.mpr hp), by rcases hp with h | h <;> rw [h] <;> decide⟩
  have hmant := hexMantissa_valid u k.ip k.frac (k.exp ++ (k.sfx.toList ++ rest)) hip hfr hEhead
  have hmh : ∀ c, (k.mant ++ (k.exp ++ (k.sfx.toList ++ rest))).head? = some c → (c == 'x' || c == 'X') = false := by
    intro c hc
    unfold BadHexFloat.mant at hc
    cases hipl : k.ip with
    | cons a as =>
      rw [hipl] at hc; simp at hc; subst hc
      exact (hexbucket a (hip a (by rw [hipl]; simp))).2.1
    | nil =>
      rw [hipl] at hc
      cases hfrac : k.frac with
      | some fp => rw [hfrac] at hc; simp [fracText] at hc; subst hc; decide
      | none => rw [hfrac] at hfr; simp only [fracOK] at hfr; exact absurd hipl hfr
  have hmantb : ∀ c ∈ k.mant, (Generated.hexadecimalDigits.toList ++ ['.']).contains c = true := by
    intro c hc
    unfold BadHexFloat.mant at hc
    rcases List.mem_append.mp hc with h | h
    · exact (hexbucket c (hip c h)).1
    · cases hfrac : k.frac with
      | none => rw [hfrac] at h; simp [fracText] at h
      | some fp =>
        rw [hfrac] at h hfr
        simp only [fracOK] at hfr
        simp only [fracText] at h
        rcases List.mem_cons.mp h with rfl | h
        · decide
        · exact (hexbucket c (hfr.1 c h)).1
  have hcore := floatLogic_hex_badexp u line col k.x hx k.mant k.exp k.sfx.toList rest
    (by simpa [BadHexFloat.mant] using hmant) hme hsuf hmh hmantb (by simp [BadHexFloat.exp])
    (goodBinExponent_nodigits u k.p hp k.sign hsign)
  have hsrc : k.render ++ rest = '0' :: k.x :: (k.mant ++ (k.exp ++ (k.sfx.toList ++ rest))) := by
    simp [BadHexFloat.render, List.append_assoc]
  rw [hsrc]; exact hcore

theorem badHexFloat_plain (k : BadHexFloat) (hk : k.WF) : ∀ c ∈ k.render, plainChar c := by
  obtain ⟨hx, hip, hfr, hp, hsign, hs⟩ := hk
  intro c hc
  simp only [BadHexFloat.render, BadHexFloat.mant, BadHexFloat.exp, List.mem_cons, List.mem_append, Option.mem_toList] at hc
  rcases hc with rfl | rfl | (hc | hc) | (rfl | hc) | hc
  · unfold plainChar; decide
  · rcases hx with h | h <;> rw [h] <;> (unfold plainChar; decide)
  · exact plain_of_word (hex_sub_word (hip c hc))
  · cases hfrac : k.frac with
    | none => rw [hfrac] at hc; simp [fracText] at hc
    | some fp =>
      rw [hfrac] at hc hfr
      simp only [fracText, List.mem_cons] at hc
      rcases hc with rfl | hc
      · unfold plainChar; decide
      · exact plain_of_word (hex_sub_word (hfr.1 c hc))
  · rcases hp with h | h <;> rw [h] <;> (unfold plainChar; decide)
  · rcases hsign c hc with rfl | rfl <;> (unfold plainChar; decide)
  · have : c ∈ wordChars := by
      unfold wordChars; rw [String.toList_ofList]
      rcases hs with h | h | h <;> rw [h] at hc <;> simp at hc
      · subst hc; decide
      · subst hc; decide
    exact plain_of_word this

/-- **Malformed family "exponent without digits", hexadecimal**: `0[xX]`, a hexadecimal mantissa (digits on at least one
side of an optional dot), `[pP][+-]?` and `l`/`L` or nothing — `0x1p`, `0x1.8p+`, `0X.8P-l` —: one CONSTANT token and
exactly one diagnostic, BAD_EXPONENT from the exponent letter to the end (repaired in /repo by ed0ba8c; before, such a
constant was accepted silently). -/
theorem bad_hex_exponent_reported (u : Uni) (k : BadHexFloat) (hk : k.WF) (rest : List Char) (hb : boundaryOK rest)
    (s : LexSt) (hr : s.rest = k.render ++ rest) :
    ∃ s' t, trySubLexers u s = .ok (some (s', t)) ∧ t.type = "CONSTANT" ∧
      t.value = some (String.ofList k.render) ∧ t.line = s.line ∧ t.col = s.col ∧
      s'.rest = rest ∧
      s'.diags = s.diags ++ [mkDiag "BAD_EXPONENT" .error
        [⟨s.line, s.col + ('0' :: k.x :: k.mant).length, some (k.exp.length + k.sfx.toList.length), none⟩]] := by
  have hfl := floatLogic_badhex u k hk rest hb s.line s.col
  have hlen : ('0' :: k.x :: k.mant).length + k.exp.length + k.sfx.toList.length = k.render.length := by
    simp [BadHexFloat.render, List.length_append]; omega
  let d := mkDiag "BAD_EXPONENT" .error
        [⟨s.line, s.col + ('0' :: k.x :: k.mant).length, some (k.exp.length + k.sfx.toList.length), none⟩]
  obtain ⟨n1, n2, n3⟩ := popN_plain k.render rest (s.addDiag d) hr (badHexFloat_plain k hk)
  have hpf : ∃ s', parseFloat u s = some (s', mkTok "CONSTANT" s s' (some k.render)) ∧ s'.rest = rest ∧
      s'.diags = s.diags ++ [d] := by
    unfold parseFloat
    rw [hr]
    have hkr : k.render ++ rest = '0' :: (k.x :: (k.mant ++ (k.exp ++ k.sfx.toList)) ++ rest) := by
      simp [BadHexFloat.render]
    rw [hkr]
    simp only
    rw [← hkr, hfl]
    simp only [LexSt.addDiag?, hlen]
    cases hpn : popN k.render.length (s.addDiag d) with
    | mk s2 r2 =>
      rw [hpn] at n1 n2 n3
      simp only at n1 n2 n3
      subst n1
      exact ⟨s2, rfl, n2, by rw [n3]; rfl⟩
  obtain ⟨s', h1, h2, h3⟩ := hpf
  refine ⟨s', mkTok "CONSTANT" s s' (some k.render), ?_, rfl, rfl, rfl, rfl, h2, h3⟩
  unfold trySubLexers
  rw [h1]

/-! ### several `x` after the `0` of a hexadecimal floating constant -/

theorem isXl_facts (u : Uni) {c : Char} (hc : c = 'x' ∨ c = 'X') :
    (c == 'x' || c == 'X') = true ∧ (Generated.hexadecimalDigits.toList ++ ['.']).contains c = false := by
  exact ⟨isXc_iff.mpr hc, (x_facts u hc).2.2.2.2.2⟩

/-- `str.strip(hexadecimal digits + ".")` of `0xx…<mantissa>` is the run of `x` -/
theorem strip_multx (xs mant : List Char) (hne : xs ≠ []) (hxs : ∀ c ∈ xs, c = 'x' ∨ c = 'X')
    (hm : ∀ c ∈ mant, (Generated.hexadecimalDigits.toList ++ ['.']).contains c = true) :
    stripChars (Generated.hexadecimalDigits.toList ++ ['.']) ('0' :: (xs ++ mant)) = xs := by
  have h0 : (Generated.hexadecimalDigits.toList ++ ['.']).contains '0' = true := (hexbucket '0' (dec_sub_hex zero_dec)).1
  obtain ⟨x0, xt, rfl⟩ : ∃ x0 xt, xs = x0 :: xt := by
    cases xs with
    | nil => exact absurd rfl hne
    | cons a b => exact ⟨a, b, rfl⟩
  have hx0 := (isXl_facts {} (hxs x0 (by simp))).2
  unfold stripChars
  have e1 : ('0' :: (x0 :: xt ++ mant)).dropWhile (Generated.hexadecimalDigits.toList ++ ['.']).contains = x0 :: xt ++ mant := by
    simp only [List.cons_append, List.dropWhile_cons, h0, hx0, ↓reduceIte, Bool.false_eq_true]
  rw [e1]
  have e2 : (x0 :: xt ++ mant).reverse = mant.reverse ++ (x0 :: xt).reverse := by simp
  rw [e2]
  have e3 : (mant.reverse ++ (x0 :: xt).reverse).dropWhile (Generated.hexadecimalDigits.toList ++ ['.']).contains = (x0 :: xt).reverse := by
    apply dropWhile_app
    · intro c hc; exact hm c (List.mem_reverse.mp hc)
    · intro c hc
      have hmem : c ∈ (x0 :: xt).reverse := List.mem_of_mem_head? hc
      exact (isXl_facts {} (hxs c (List.mem_reverse.mp hmem))).2
  rw [e3]; simp

/-- the float parser on `0`, at least two `x`, a mantissa, a well-formed exponent group and suffix -/
theorem floatLogic_multx (u : Uni) (line col : Nat) (xs mant E H L rest : List Char) (hxs2 : 2 ≤ xs.length)
    (hxs : ∀ c ∈ xs, c = 'x' ∨ c = 'X')
    (hmant : hexMantissa u (mant ++ (E ++ (H ++ (L ++ rest)))) = some (mant, E ++ (H ++ (L ++ rest))))
    (hme : matchExp isP u.isH (tailHex u) (E ++ (H ++ (L ++ rest))) = E ++ H)
    (hsuf : floatSuffix u (L ++ rest) = L)
    (hmh : ∀ c, (mant ++ (E ++ (H ++ (L ++ rest)))).head? = some c → (c == 'x' || c == 'X') = false)
    (hmantb : ∀ c ∈ mant, (Generated.hexadecimalDigits.toList ++ ['.']).contains c = true)
    (hEne : (E ++ H).isEmpty = false) :
    floatLogic u line col ('0' :: (xs ++ (mant ++ (E ++ (H ++ (L ++ rest)))))) =
      .tok ⟨.hexadecimal, '0' :: (xs ++ mant), E ++ H, L⟩
        (some (mkDiag "MULTIPLE_X" .error [⟨line, col + 1, some xs.length, none⟩])) := by
  obtain ⟨x0, xt, rfl⟩ : ∃ x0 xt, xs = x0 :: xt := by
    cases xs with
    | nil => simp at hxs2
    | cons a b => exact ⟨a, b, rfl⟩
  have hx0 := hxs x0 (by simp)
  obtain ⟨x1, x2, x3, x4, x5, x6⟩ := x_facts u hx0
  have h0 : u.isD '0' = true := isD_of_dec u zero_dec
  generalize htl : xt ++ (mant ++ (E ++ (H ++ (L ++ rest)))) = tl
  have hsrc : '0' :: (x0 :: xt ++ (mant ++ (E ++ (H ++ (L ++ rest))))) = '0' :: x0 :: tl := by simp [← htl]
  have htwD : ('0' :: x0 :: tl).takeWhile u.isD = ['0'] := by
    simp only [List.takeWhile_cons, h0, x1, ↓reduceIte, Bool.false_eq_true]
  have hdwD : ('0' :: x0 :: tl).dropWhile u.isD = x0 :: tl := by
    simp only [List.dropWhile_cons, h0, x1, ↓reduceIte, Bool.false_eq_true]
  have hm1 : matchFloatExp u ('0' :: x0 :: tl) = none := by
    unfold matchFloatExp spanP
    simp only [htwD, hdwD]
    have : matchExp isE u.isD (tailDec u) (x0 :: tl) = [] :=
      matchExp_nil (by intro c hc; simp at hc; subst hc; exact x3)
    simp [this]
  have hm2 : matchFloatFrac u ('0' :: x0 :: tl) = none := by
    unfold matchFloatFrac spanP
    simp only [htwD, hdwD]
    split
    · rfl
    · rename_i c r hc
      split at hc
      · rename_i r' heq
        simp only [List.cons.injEq] at heq
        exact absurd heq.1 x4
      · cases hc
  have hm3 : matchFloatHex u ('0' :: x0 :: tl) =
      some ⟨.hexadecimal, '0' :: (x0 :: xt ++ mant), E ++ H, L⟩ := by
    unfold matchFloatHex
    simp only
    have tx : (x0 :: tl).takeWhile (fun c => c == 'x' || c == 'X') = x0 :: xt := by
      rw [← htl]
      have := takeWhile_app (p := fun c => c == 'x' || c == 'X') (s := x0 :: xt) (rest := mant ++ (E ++ (H ++ (L ++ rest))))
        (by intro c hc; exact (isXl_facts u (hxs c hc)).1) hmh
      simpa using this
    have dx : (x0 :: tl).dropWhile (fun c => c == 'x' || c == 'X') = mant ++ (E ++ (H ++ (L ++ rest))) := by
      rw [← htl]
      have := dropWhile_app (p := fun c => c == 'x' || c == 'X') (s := x0 :: xt) (rest := mant ++ (E ++ (H ++ (L ++ rest))))
        (by intro c hc; exact (isXl_facts u (hxs c hc)).1) hmh
      simpa using this
    rw [tx, dx, hmant]
    simp only [hme]
    have : (E ++ (H ++ (L ++ rest))).drop (E ++ H).length = L ++ rest := by
      rw [← List.append_assoc]; simp
    rw [this, hsuf]
    simp
  rw [hsrc]
  unfold floatLogic
  simp only [hm1, hm2, hm3]
  have hstrip := strip_multx (x0 :: xt) mant (by simp) hxs hmantb
  have hnot : ((x0 :: xt) == ['x'] || (x0 :: xt) == ['X']) = false := by
    cases xt with
    | nil => simp at hxs2
    | cons a b => simp
  simp only [List.cons_append] at hstrip
  have hxt : xt ≠ [] := by
    intro e; subst e; simp at hxs2
  simp [hEne, hstrip, hnot]
  intro h
  exact absurd (h (Or.inr hxt)).2 hxt

/-- the members of the family: a well-formed hexadecimal floating constant with further `x`/`X` after its `0x` -/
def multXRender (k : HexFloat) (extra : List Char) : List Char :=
  '0' :: k.x :: (extra ++ (k.mant ++ (k.exp.render ++ k.sfx.toList)))

theorem floatLogic_multx_valid (u : Uni) (k : HexFloat) (hk : k.WF) (extra : List Char) (hne : extra ≠ [])
    (hextra : ∀ c ∈ extra, c = 'x' ∨ c = 'X') (rest : List Char) (hb : boundaryOK rest) (line col : Nat) :
    ∃ m, floatLogic u line col (multXRender k extra ++ rest) =
        .tok m (some (mkDiag "MULTIPLE_X" .error [⟨line, col + 1, some (extra.length + 1), none⟩])) ∧
      m.const ++ m.exp ++ m.suf = multXRender k extra := by
  obtain ⟨hx, hip, hfr, hexp, hs⟩ := hk
  obtain ⟨sp1, sp2, sp3, sp4, sp5, sp6⟩ := sfxSplit_spec k.sfx hs
  generalize (sfxSplit k.sfx).1 = H at sp1 sp2
  generalize (sfxSplit k.sfx).2 = L at sp1 sp3 sp4 sp5 sp6
  have hnotH : ∀ c ∈ wordChars, c ∉ hexDigits → u.isH c = false := fun c => isH_not_hex u
  have hLH : ∀ c, (L ++ rest).head? = some c → u.isH c = false := by
    intro c hc
    cases hL : L with
    | nil =>
      rw [hL] at hc; simp only [List.nil_append] at hc
      exact (boundary_head u hb c hc).2.2.1
    | cons d tl =>
      rw [hL] at hc; simp only [List.cons_append, List.head?_cons, Option.some.injEq] at hc
      subst hc
      obtain ⟨h1, h2⟩ := sp3 d (by rw [hL]; rfl)
      exact hnotH d h2 h1
  have hme := matchBinExp_valid u k.exp hexp H (L ++ rest) sp2 hLH (tailHex u)
  have hsuf : floatSuffix u (L ++ rest) = L := by
    unfold floatSuffix
    apply takeWhile_app
    · intro c hc; simp [isW_of_word u (sp6 c hc)]
    · intro c hc
      obtain ⟨h1, _, _, _, _, h6, _⟩ := boundary_head u hb c hc
      simp [h1, h6]
  have hEhead : ∀ c, (k.exp.render ++ (H ++ (L ++ rest))).head? = some c → u.isH c = false ∧ c ≠ '.' := by
    intro c hc
    simp only [BinExp.render, List.cons_append, List.head?_cons, Option.some.injEq] at hc
    subst hc
    exact ⟨isP_not_isH u (isP_iff.mpr hexp.1), by rcases hexp.1 with h | h <;> rw [h] <;> decide⟩
  have hmant := hexMantissa_valid u k.ip k.frac (k.exp.render ++ (H ++ (L ++ rest))) hip hfr hEhead
  have hmh : ∀ c, (k.mant ++ (k.exp.render ++ (H ++ (L ++ rest)))).head? = some c → (c == 'x' || c == 'X') = false := by
    intro c hc
    unfold HexFloat.mant at hc
    cases hipl : k.ip with
    | cons a as =>
      rw [hipl] at hc; simp at hc; subst hc
      exact (hexbucket a (hip a (by rw [hipl]; simp))).2.1
    | nil =>
      rw [hipl] at hc
      cases hfrac : k.frac with
      | some fp => rw [hfrac] at hc; simp [fracText] at hc; subst hc; decide
      | none => rw [hfrac] at hfr; simp only [fracOK] at hfr; exact absurd hipl hfr
  have hmantb : ∀ c ∈ k.mant, (Generated.hexadecimalDigits.toList ++ ['.']).contains c = true := by
    intro c hc
    unfold HexFloat.mant at hc
    rcases List.mem_append.mp hc with h | h
    · exact (hexbucket c (hip c h)).1
    · cases hfrac : k.frac with
      | none => rw [hfrac] at h; simp [fracText] at h
      | some fp =>
        rw [hfrac] at h hfr
        simp only [fracOK] at hfr
        simp only [fracText] at h
        rcases List.mem_cons.mp h with rfl | h
        · decide
        · exact (hexbucket c (hfr.1 c h)).1
  have hxs : ∀ c ∈ k.x :: extra, c = 'x' ∨ c = 'X' := by
    intro c hc
    rcases List.mem_cons.mp hc with rfl | hc
    · exact hx
    · exact hextra c hc
  have hlen2 : 2 ≤ (k.x :: extra).length := by
    cases extra with
    | nil => exact absurd rfl hne
    | cons a b => simp
  have hcore := floatLogic_multx u line col (k.x :: extra) k.mant k.exp.render H L rest hlen2 hxs hmant hme hsuf hmh hmantb
    (by simp [BinExp.render])
  have hsrc : multXRender k extra ++ rest = '0' :: ((k.x :: extra) ++ (k.mant ++ (k.exp.render ++ (H ++ (L ++ rest))))) := by
    simp [multXRender, ← sp1, List.append_assoc]
  refine ⟨⟨.hexadecimal, '0' :: ((k.x :: extra) ++ k.mant), k.exp.render ++ H, L⟩, ?_, ?_⟩
  · rw [hsrc, hcore]; simp
  · simp [multXRender, ← sp1, List.append_assoc]

theorem multX_plain (k : HexFloat) (hk : k.WF) (extra : List Char) (hextra : ∀ c ∈ extra, c = 'x' ∨ c = 'X') :
    ∀ c ∈ multXRender k extra, plainChar c := by
  have hp := hexFloat_plain k hk
  intro c hc
  simp only [multXRender, List.mem_cons, List.mem_append] at hc
  rcases hc with rfl | rfl | hc | hc
  · unfold plainChar; decide
  · exact hp _ (by simp [HexFloat.render])
  · rcases hextra c hc with rfl | rfl <;> (unfold plainChar; decide)
  · exact hp c (by simp only [HexFloat.render, List.mem_cons, List.mem_append]; right; right; exact hc)

/-- **Malformed family "several x"**: a well-formed hexadecimal floating constant with one or more further `x`/`X`
after its `0x` — `0xx1p3`, `0xX.8p-1f` —: one CONSTANT token spanning everything and exactly one diagnostic added,
MULTIPLE_X over the run of `x`. -/
theorem multiple_x_reported (u : Uni) (k : HexFloat) (hk : k.WF) (extra : List Char) (hne : extra ≠ [])
    (hextra : ∀ c ∈ extra, c = 'x' ∨ c = 'X') (rest : List Char) (hb : boundaryOK rest)
    (s : LexSt) (hr : s.rest = multXRender k extra ++ rest) :
    ∃ s' t, trySubLexers u s = .ok (some (s', t)) ∧ t.type = "CONSTANT" ∧
      t.value = some (String.ofList (multXRender k extra)) ∧ t.line = s.line ∧ t.col = s.col ∧
      s'.rest = rest ∧
      s'.diags = s.diags ++ [mkDiag "MULTIPLE_X" .error [⟨s.line, s.col + 1, some (extra.length + 1), none⟩]] := by
  obtain ⟨m, hfl, hm⟩ := floatLogic_multx_valid u k hk extra hne hextra rest hb s.line s.col
  have hlen : m.const.length + m.exp.length + m.suf.length = (multXRender k extra).length := by
    rw [← hm]; simp [List.length_append]; omega
  let d := mkDiag "MULTIPLE_X" .error [⟨s.line, s.col + 1, some (extra.length + 1), none⟩]
  obtain ⟨n1, n2, n3⟩ := popN_plain (multXRender k extra) rest (s.addDiag d) hr (multX_plain k hk extra hextra)
  have hpf : ∃ s', parseFloat u s = some (s', mkTok "CONSTANT" s s' (some (multXRender k extra))) ∧ s'.rest = rest ∧
      s'.diags = s.diags ++ [d] := by
    unfold parseFloat
    rw [hr]
    have hkr : multXRender k extra ++ rest = '0' :: (k.x :: (extra ++ (k.mant ++ (k.exp.render ++ k.sfx.toList))) ++ rest) := by
      simp [multXRender]
    rw [hkr]
    simp only
    rw [← hkr, hfl]
    simp only [LexSt.addDiag?, hlen]
    cases hpn : popN (multXRender k extra).length (s.addDiag d) with
    | mk s2 r2 =>
      rw [hpn] at n1 n2 n3
      simp only at n1 n2 n3
      subst n1
      exact ⟨s2, rfl, n2, by rw [n3]; rfl⟩
  obtain ⟨s', h1, h2, h3⟩ := hpf
  refine ⟨s', mkTok "CONSTANT" s s' (some (multXRender k extra)), ?_, rfl, rfl, rfl, rfl, h2, h3⟩
  unfold trySubLexers
  rw [h1]

/-! ### floating constants with a suffix that is not in the tool's table -/

/-- shape of an unknown floating suffix: letters, digits and underscores, not starting with a digit or an exponent letter -/
def fsfxShape (s : List Char) : Bool :=
  s.all (fun c => wordChars.contains c) && (match s with | c :: _ => !("0123456789eE".toList.contains c) | [] => false)

theorem fsfx_head_tbl : ∀ c ∈ wordChars, "0123456789eE".toList.contains c = false →
    c ∉ decDigits ∧ isE c = false ∧ c ≠ '.' ∧ c ≠ '+' ∧ c ≠ '-' := by
  intro c hw hb
  have e : "0123456789eE".toList = decDigits ++ ['e', 'E'] := by
    unfold decDigits; rw [String.toList_ofList, String.toList_ofList]; rfl
  have hn : c ∉ decDigits ∧ ¬ (c = 'e' ∨ c = 'E') := by simpa [e, List.contains_iff_mem] using hb
  exact ⟨hn.1, Bool.eq_false_iff.mpr (fun h => hn.2 (isE_iff.mp h)), ne_of_word hw (by decide),
    ne_of_word hw (by decide), ne_of_word hw (by decide)⟩

theorem fsfxShape_facts {s : List Char} (h : fsfxShape s = true) :
    (∀ c ∈ s, c ∈ wordChars) ∧ ∃ d tl, s = d :: tl ∧ d ∉ decDigits ∧ isE d = false ∧ d ≠ '.' ∧ d ≠ '+' ∧ d ≠ '-' := by
  unfold fsfxShape at h
  simp only [Bool.and_eq_true, List.all_eq_true] at h
  obtain ⟨h1, h2⟩ := h
  have hw : ∀ c ∈ s, c ∈ wordChars := fun c hc => by simpa using h1 c hc
  refine ⟨hw, ?_⟩
  cases s with
  | nil => simp at h2
  | cons d tl =>
    simp only [Bool.not_eq_true'] at h2
    exact ⟨d, tl, rfl, fsfx_head_tbl d (hw d (by simp)) h2⟩

theorem after_float_gen (u : Uni) {sfx : List Char} (hs : fsfxShape sfx = true) {rest : List Char} (hb : boundaryOK rest) :
    ∀ c, (sfx ++ rest).head? = some c →
      u.isD c = false ∧ isE c = false ∧ c ≠ '.' ∧ c ≠ '+' ∧ c ≠ '-' := by
  intro c hc
  obtain ⟨hw, d, tl, rfl, hd1, hd2, hd3, hd4, hd5⟩ := fsfxShape_facts hs
  simp only [List.cons_append, List.head?_cons, Option.some.injEq] at hc
  subst hc
  refine ⟨?_, hd2, hd3, hd4, hd5⟩
  have hwd := hw d (by simp)
  exact Bool.eq_false_iff.mpr (fun h => hd1 ((isD_iff u (word_ascii d hwd).1).mp h))

theorem floatSuffix_gen (u : Uni) {sfx : List Char} (hw : ∀ c ∈ sfx, c ∈ wordChars) {rest : List Char}
    (hb : boundaryOK rest) : floatSuffix u (sfx ++ rest) = sfx := by
  unfold floatSuffix
  apply takeWhile_app
  · intro c hc; simp [isW_of_word u (hw c hc)]
  · intro c hc
    obtain ⟨h1, _, _, _, _, h6, _⟩ := boundary_head u hb c hc
    simp [h1, h6]

def Spec.DecFloat.sfxText : DecFloat → List Char
  | .exp _ _ s => s.toList
  | .frac _ _ _ s => s.toList

/-- a well-formed decimal floating constant, except that its suffix is a suffix-shaped text the tool's table does not hold -/
def Spec.DecFloat.BadSfx : DecFloat → Prop
  | .exp ip x sfx => ip ≠ [] ∧ (∀ c ∈ ip, c ∈ decDigits) ∧ x.WF ∧ fsfxShape sfx.toList = true ∧
      Generated.floatSuffixes.contains sfx = false
  | .frac ip fp x sfx => (ip ≠ [] ∨ fp ≠ []) ∧ (∀ c ∈ ip, c ∈ decDigits) ∧ (∀ c ∈ fp, c ∈ decDigits) ∧
      (∀ y, x = some y → y.WF) ∧ fsfxShape sfx.toList = true ∧ Generated.floatSuffixes.contains sfx = false

theorem floatLogic_dec_badsfx (u : Uni) (k : DecFloat) (hk : k.BadSfx) (rest : List Char) (hb : boundaryOK rest)
    (line col : Nat) :
    ∃ m, floatLogic u line col (k.render ++ rest) = .tok m (some (mkDiag "BAD_FLOAT_SUFFIX" .error
        [⟨line, col + m.const.length + m.exp.length, some m.suf.length, none⟩])) ∧ m.const ++ m.exp ++ m.suf = k.render ∧
      m.suf = k.sfxText := by
  cases k with
  | exp ip x sfx =>
    obtain ⟨hipne, hip, hx, hs, hnot⟩ := hk
    have hw := (fsfxShape_facts hs).1
    have haf := after_float_gen u hs hb
    have hxe : isE x.e = true := by rcases hx.1 with h | h <;> rw [h] <;> decide
    have hxd : u.isD x.e = false := isE_not_isD u (isE_iff.mpr hx.1)
    have hipD : ∀ c ∈ ip, u.isD c = true := fun c hc => (dec_facts u (hip c hc)).1
    have hsrc : DecFloat.render (.exp ip x sfx) ++ rest = ip ++ (x.render ++ (sfx.toList ++ rest)) := by
      simp [DecFloat.render, List.append_assoc]
    have hhead : ∀ c, (x.render ++ (sfx.toList ++ rest)).head? = some c → u.isD c = false := by
      intro c hc; simp [ExpPart.render] at hc; subst hc; exact hxd
    have htw : (ip ++ (x.render ++ (sfx.toList ++ rest))).takeWhile u.isD = ip := takeWhile_app hipD hhead
    have hdw : (ip ++ (x.render ++ (sfx.toList ++ rest))).dropWhile u.isD = x.render ++ (sfx.toList ++ rest) :=
      dropWhile_app hipD hhead
    have hme := matchExp_valid u x hx (sfx.toList ++ rest) (fun c hc => (haf c hc).1) (tailDec u)
    have hm : matchFloatExp u (ip ++ (x.render ++ (sfx.toList ++ rest))) =
        some ⟨.exponent, ip, x.render, sfx.toList⟩ := by
      unfold matchFloatExp spanP
      simp only [htw, hdw, hme]
      have h1 : ip.isEmpty = false := by cases ip with | nil => exact absurd rfl hipne | cons a b => rfl
      have h2 : x.render.isEmpty = false := by simp [ExpPart.render]
      simp only [h1, h2, Bool.false_eq_true, ↓reduceIte, List.drop_left', floatSuffix_gen u hw hb]
    refine ⟨⟨.exponent, ip, x.render, sfx.toList⟩, ?_, by simp [DecFloat.render, List.append_assoc], rfl⟩
    rw [hsrc]
    unfold floatLogic
    simp only [hm]
    have hge := goodExponent_valid u x hx
    have hcnt : ip.count '.' = 0 := count_dot_digits ip hip
    have hsf' : ¬ sfx ∈ Generated.floatSuffixes := by simpa using hnot
    simp [hge, hcnt, hsf']
  | frac ip fp x sfx =>
    obtain ⟨hne, hip, hfp, hxw, hs, hnot⟩ := hk
    have hw := (fsfxShape_facts hs).1
    have haf := after_float_gen u hs hb
    have hipD : ∀ c ∈ ip, u.isD c = true := fun c hc => (dec_facts u (hip c hc)).1
    have hfpD : ∀ c ∈ fp, u.isD c = true := fun c hc => (dec_facts u (hfp c hc)).1
    -- X = the rendered exponent part (possibly empty); its head, if any, is no digit
    let X : List Char := ExpPart.renderOpt x
    have hXhead : ∀ c, (X ++ (sfx.toList ++ rest)).head? = some c → u.isD c = false := by
      intro c hc
      cases hx : x with
      | none => simp only [X, hx, ExpPart.renderOpt, List.nil_append] at hc; exact (haf c hc).1
      | some y =>
        simp only [X, hx, ExpPart.renderOpt, ExpPart.render, List.cons_append, List.head?_cons, Option.some.injEq] at hc
        subst hc
        have hy := hxw y hx
        exact isE_not_isD u (isE_iff.mpr hy.1)
    have hsrc : DecFloat.render (.frac ip fp x sfx) ++ rest = ip ++ ('.' :: (fp ++ (X ++ (sfx.toList ++ rest)))) := by
      simp [DecFloat.render, X, List.append_assoc]
    have hdot : ∀ c, ('.' :: (fp ++ (X ++ (sfx.toList ++ rest)))).head? = some c → u.isD c = false := by
      intro c hc; simp at hc; subst hc
      exact isD_punct u (by decide)
    have htw : (ip ++ ('.' :: (fp ++ (X ++ (sfx.toList ++ rest))))).takeWhile u.isD = ip := takeWhile_app hipD hdot
    have hdw : (ip ++ ('.' :: (fp ++ (X ++ (sfx.toList ++ rest))))).dropWhile u.isD = '.' :: (fp ++ (X ++ (sfx.toList ++ rest))) :=
      dropWhile_app hipD hdot
    have hfs : (fp ++ (X ++ (sfx.toList ++ rest))).takeWhile u.isD = fp := takeWhile_app hfpD hXhead
    -- the exponent group on X ++ sfx ++ rest
    have hme : matchExp isE u.isD (tailDec u) (X ++ (sfx.toList ++ rest)) = X := by
      cases hx : x with
      | none =>
        simp only [X, hx, ExpPart.renderOpt, List.nil_append]
        unfold matchExp spanP
        have : (sfx.toList ++ rest).takeWhile isE = [] := by
          cases hl : sfx.toList ++ rest with
          | nil => rfl
          | cons c tl =>
            have := (haf c (by rw [hl]; rfl)).2.1
            simp [List.takeWhile, this]
        simp [this]
      | some y =>
        simp only [X, hx, ExpPart.renderOpt]
        exact matchExp_valid u y (hxw y hx) (sfx.toList ++ rest) (fun c hc => (haf c hc).1) (tailDec u)
    -- the exponent pattern does not apply (a dot follows the digits, or there are no digits)
    have hm1 : matchFloatExp u (ip ++ ('.' :: (fp ++ (X ++ (sfx.toList ++ rest))))) = none := by
      unfold matchFloatExp spanP
      simp only [htw, hdw]
      split
      · rfl
      · have : matchExp isE u.isD (tailDec u) ('.' :: (fp ++ (X ++ (sfx.toList ++ rest)))) = [] := by
          unfold matchExp spanP
          simp [List.takeWhile, isE_facts.2.2.2.2.2]
        simp [this]
    let c := if fp.isEmpty then ip ++ ['.'] else ip ++ '.' :: fp
    have hm2 : matchFloatFrac u (ip ++ ('.' :: (fp ++ (X ++ (sfx.toList ++ rest))))) =
        some ⟨.fractional, ip ++ '.' :: fp, X, sfx.toList⟩ := by
      unfold matchFloatFrac spanP
      simp only [htw, hdw, hfs]
      cases hfe : fp with
      | nil =>
        have hipne : ip.isEmpty = false := by
          rcases hne with h | h
          · cases ip with | nil => exact absurd rfl h | cons a b => rfl
          · exact absurd hfe h
        simp only [List.isEmpty_nil, Bool.not_true, Bool.false_eq_true, ↓reduceIte, hipne, Bool.not_false,
          List.nil_append]
        simp [hme, floatSuffix_gen u hw hb]
      | cons f0 fs =>
        simp only [List.isEmpty_cons, Bool.not_false, ↓reduceIte]
        have hdrop : (f0 :: fs ++ (X ++ (sfx.toList ++ rest))).drop (f0 :: fs).length = X ++ (sfx.toList ++ rest) := by
          simp
        rw [hdrop]
        simp only [hme, List.drop_left', floatSuffix_gen u hw hb]
    refine ⟨⟨.fractional, ip ++ '.' :: fp, X, sfx.toList⟩, ?_, by simp [DecFloat.render, X, List.append_assoc], rfl⟩
    rw [hsrc]
    unfold floatLogic
    simp only [hm1, hm2]
    have hsd : sfx.toList.count '.' = 0 := by
      apply List.count_eq_zero.mpr
      intro hm
      exact ne_of_word (hw '.' hm) (by decide) rfl
    have hsf' : ¬ sfx ∈ Generated.floatSuffixes := by simpa using hnot
    have hgx : ¬ X = [] → goodExponent u X = true := by
      intro hX
      cases hx : x with
      | none => simp [X, hx, ExpPart.renderOpt] at hX
      | some y =>
        have := goodExponent_valid u y (hxw y hx)
        simpa [X, hx, ExpPart.renderOpt] using this
    simp [hsf', hsd]
    intro hX hbad
    rw [hgx hX] at hbad; cases hbad


theorem decFloat_badsfx_plain (k : DecFloat) (hk : k.BadSfx) : ∀ c ∈ k.render, plainChar c := by
  cases k with
  | exp ip x sfx =>
    obtain ⟨_, hip, hx, hs, _⟩ := hk
    have hw := (fsfxShape_facts hs).1
    intro c hc
    simp only [DecFloat.render, List.mem_append] at hc
    rcases hc with (hc | hc) | hc
    · exact plain_of_word (dec_sub_word (hip c hc))
    · exact expPart_plain x hx c hc
    · exact plain_of_word (hw c hc)
  | frac ip fp x sfx =>
    obtain ⟨_, hip, hfp, hxw, hs, _⟩ := hk
    have hw := (fsfxShape_facts hs).1
    intro c hc
    simp only [DecFloat.render, List.mem_append, List.mem_cons] at hc
    rcases hc with ((hc | rfl | hc) | hc) | hc
    · exact plain_of_word (dec_sub_word (hip c hc))
    · unfold plainChar; decide
    · exact plain_of_word (dec_sub_word (hfp c hc))
    · cases hx : x with
      | none => rw [hx] at hc; simp [ExpPart.renderOpt] at hc
      | some y => rw [hx] at hc; exact expPart_plain y (hxw y hx) c hc
    · exact plain_of_word (hw c hc)

/-- **Malformed family "unknown suffix", floating constants**: a well-formed decimal floating constant whose suffix is
replaced by a suffix-shaped text that the tool's own table does not hold (`1.5x`, `2e3ff`, `.5_t`): one CONSTANT token
spanning everything and exactly one diagnostic added, BAD_FLOAT_SUFFIX on the suffix. (The tool's table is a superset of
the standard's — `d`, `df`, `fi` … —, so "unknown" is relative to the regenerated table.) -/
theorem bad_float_suffix_reported (u : Uni) (k : DecFloat) (hk : k.BadSfx) (rest : List Char) (hb : boundaryOK rest)
    (s : LexSt) (hr : s.rest = k.render ++ rest) :
    ∃ s' t off, trySubLexers u s = .ok (some (s', t)) ∧ t.type = "CONSTANT" ∧
      t.value = some (String.ofList k.render) ∧ t.line = s.line ∧ t.col = s.col ∧ s'.rest = rest ∧
      off + k.sfxText.length = k.render.length ∧
      s'.diags = s.diags ++ [mkDiag "BAD_FLOAT_SUFFIX" .error [⟨s.line, s.col + off, some k.sfxText.length, none⟩]] := by
  obtain ⟨m, hfl, hm, hsuf⟩ := floatLogic_dec_badsfx u k hk rest hb s.line s.col
  have hlen : m.const.length + m.exp.length + m.suf.length = k.render.length := by
    rw [← hm]; simp [List.length_append]; omega
  let d := mkDiag "BAD_FLOAT_SUFFIX" .error [⟨s.line, s.col + m.const.length + m.exp.length, some m.suf.length, none⟩]
  obtain ⟨n1, n2, n3⟩ := popN_plain k.render rest (s.addDiag d) hr (decFloat_badsfx_plain k hk)
  have hne : k.render ≠ [] := by
    cases k with
    | exp ip x sfx => simp [DecFloat.render, ExpPart.render]
    | frac ip fp x sfx => simp [DecFloat.render]
  have hpf : ∃ s', parseFloat u s = some (s', mkTok "CONSTANT" s s' (some k.render)) ∧ s'.rest = rest ∧ s'.diags = s.diags ++ [d] := by
    unfold parseFloat
    rw [hr]
    cases hkr : k.render ++ rest with
    | nil =>
      exfalso
      have := congrArg List.length hkr
      simp only [List.length_append, List.length_nil] at this
      have : k.render.length = 0 := by omega
      exact hne (List.eq_nil_of_length_eq_zero this)
    | cons c0 tl0 =>
      simp only
      rw [← hkr, hfl]
      simp only [LexSt.addDiag?, hlen]
      cases hpn : popN k.render.length (s.addDiag d) with
      | mk s2 r2 =>
        rw [hpn] at n1 n2 n3
        simp only at n1 n2 n3
        subst n1
        exact ⟨s2, rfl, n2, by rw [n3]; rfl⟩
  obtain ⟨s', h1, h2, h3⟩ := hpf
  refine ⟨s', mkTok "CONSTANT" s s' (some k.render), m.const.length + m.exp.length, ?_, rfl, rfl, rfl, rfl, h2, ?_, ?_⟩
  · unfold trySubLexers
    rw [h1]
  · rw [← hsuf]; omega
  · rw [h3, ← hsuf]
    simp only [d, Nat.add_assoc]

end Norm
