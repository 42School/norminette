/- Lemmas about `CheckSpacing` (`Model/Spacing.lean`). -/
import NormModel.Model.Spacing
namespace Norm

theorem isTy_lt (ts : List Token) (k : Nat) (ty : String) (h : isTy ts k ty = true) : k < ts.length := by
  unfold isTy at h
  cases hk : ts[k]? with
  | none => rw [hk] at h; cases h
  | some t =>
    have := List.getElem?_eq_some_iff.mp hk
    exact this.1

/-! ### the two skipping loops -/

def inBound (b : Option Nat) (i : Nat) : Bool :=
  match b with
  | some b => decide (i < b)
  | none => true

theorem skipTy_unfold (ts : List Token) (ty : String) (b : Option Nat) (fuel i : Nat) :
    skipTy ts ty b (fuel + 1) i = if inBound b i && isTy ts i ty then skipTy ts ty b fuel (i + 1) else i := by
  rfl

theorem skipTy_ge (ts : List Token) (ty : String) (b : Option Nat) (fuel i : Nat) : i ≤ skipTy ts ty b fuel i := by
  induction fuel generalizing i with
  | zero => simp [skipTy]
  | succ f ih =>
    rw [skipTy_unfold]; split
    · have := ih (i + 1); omega
    · omega

theorem skipTy_all (ts : List Token) (ty : String) (b : Option Nat) (fuel i k : Nat)
    (h1 : i ≤ k) (h2 : k < skipTy ts ty b fuel i) : isTy ts k ty = true ∧ inBound b k = true := by
  induction fuel generalizing i with
  | zero => simp [skipTy] at h2; omega
  | succ f ih =>
    rw [skipTy_unfold] at h2
    split at h2
    · rename_i hc
      simp only [Bool.and_eq_true] at hc
      by_cases hk : k = i
      · subst hk; exact ⟨hc.2, hc.1⟩
      · exact ih (i + 1) (by omega) h2
    · omega

/-- with enough fuel the loop stops only where its condition fails -/
theorem skipTy_stop (ts : List Token) (ty : String) (b : Option Nat) (fuel i : Nat)
    (hf : ts.length < fuel + i) :
    (inBound b (skipTy ts ty b fuel i) && isTy ts (skipTy ts ty b fuel i) ty) = false := by
  induction fuel generalizing i with
  | zero =>
    simp only [skipTy]
    have : isTy ts i ty = false := by
      cases h : isTy ts i ty with
      | false => rfl
      | true => have := isTy_lt ts i ty h; omega
    simp [this]
  | succ f ih =>
    rw [skipTy_unfold]
    split
    · exact ih (i + 1) (by omega)
    · rename_i hc; simpa using hc

/-- the loop cannot pass an index where the token is of another type -/
theorem skipTy_le_of_not (ts : List Token) (ty : String) (b : Option Nat) (fuel i k : Nat)
    (h1 : i ≤ k) (h2 : isTy ts k ty = false) : skipTy ts ty b fuel i ≤ k := by
  by_cases h : k < skipTy ts ty b fuel i
  · have := (skipTy_all ts ty b fuel i k h1 h).1
    rw [h2] at this; cases this
  · omega

theorem skipTy_le_bound (ts : List Token) (ty : String) (n fuel i : Nat) (h : i ≤ n) :
    skipTy ts ty (some n) fuel i ≤ n := by
  by_cases hk : n < skipTy ts ty (some n) fuel i
  · have := (skipTy_all ts ty (some n) fuel i n h hk).2
    simp [inBound] at this
  · omega

theorem skipTy_succ_of (ts : List Token) (ty : String) (b : Option Nat) (fuel i : Nat)
    (h1 : isTy ts i ty = true) (h2 : inBound b i = true) : i + 1 ≤ skipTy ts ty b (fuel + 1) i := by
  rw [skipTy_unfold]; simp only [h1, h2, Bool.and_self, ↓reduceIte]
  exact skipTy_ge ts ty b fuel (i + 1)

def isBlank (ts : List Token) (k : Nat) : Bool :=
  isTy ts k "SPACE" || isTy ts k "TAB" || isTy ts k "ESCAPED_NEWLINE"

theorem skipWsST_unfold (ts : List Token) (fuel i : Nat) :
    skipWsST ts (fuel + 1) i = if isBlank ts i then skipWsST ts fuel (i + 1) else i := by
  rfl

/-- over a run of blanks ending at a non-blank `m`, `skip_ws` returns `m` -/
theorem skipWsST_run (ts : List Token) (fuel i m : Nat) (him : i ≤ m) (hf : m - i < fuel)
    (hblank : ∀ j, i ≤ j → j < m → isBlank ts j = true) (hm : isBlank ts m = false) :
    skipWsST ts fuel i = m := by
  induction fuel generalizing i with
  | zero => omega
  | succ f ih =>
    rw [skipWsST_unfold]
    by_cases h : i = m
    · subst h; simp [hm]
    · have hb := hblank i (Nat.le_refl i) (by omega)
      simp only [hb, ↓reduceIte]
      exact ih (i + 1) (by omega) (by omega) (fun j h1 h2 => hblank j (by omega) h2)

/-! ### diagnostics only accumulate -/

theorem mixedBefore_out (ts : List Token) (st : SpSt) : ∀ d ∈ st.out, d ∈ (mixedBefore ts st).out := by
  intro d hd; unfold mixedBefore
  generalize (isTy ts (if st.i > 0 then st.i - 1 else 0) "TAB" && !st.stErr) = c
  cases c <;> simp [hd]
theorem mixedBefore_i (ts : List Token) (st : SpSt) : (mixedBefore ts st).i = st.i := by
  unfold mixedBefore
  generalize (isTy ts (if st.i > 0 then st.i - 1 else 0) "TAB" && !st.stErr) = c
  cases c <;> rfl
theorem spaceCol1_out (ts : List Token) (n : Nat) (st : SpSt) : ∀ d ∈ st.out, d ∈ (spaceCol1 ts n st).out := by
  intro d hd; unfold spaceCol1; simp only; split <;> simp [hd]
theorem trailingAt_out (ts : List Token) (st : SpSt) : ∀ d ∈ st.out, d ∈ (trailingAt ts st).out := by
  intro d hd; unfold trailingAt; simp only; split <;> simp [hd]
theorem trailingAt_i (ts : List Token) (st : SpSt) : (trailingAt ts st).i = st.i := by
  unfold trailingAt; simp only; split <;> rfl
theorem consecutiveAt_out (ts : List Token) (n : Nat) (st : SpSt) : ∀ d ∈ st.out, d ∈ (consecutiveAt ts n st).out := by
  intro d hd; unfold consecutiveAt; simp only
  split
  · split <;> simp [hd]
  · simp [hd]
theorem mixedAfter_out (ts : List Token) (st : SpSt) : ∀ d ∈ st.out, d ∈ (mixedAfter ts st).out := by
  intro d hd; unfold mixedAfter; split <;> simp [hd]
theorem mixedAfter_i (ts : List Token) (st : SpSt) : (mixedAfter ts st).i = st.i := by
  unfold mixedAfter; split <;> rfl
theorem tabCol1_out (ts : List Token) (st : SpSt) : ∀ d ∈ st.out, d ∈ (tabCol1 ts st).out := by
  intro d hd; unfold tabCol1; simp only; split <;> simp [hd]

theorem spacingBody_out (ts : List Token) (n : Nat) (st : SpSt) : ∀ d ∈ st.out, d ∈ (spacingBody ts n st).out := by
  intro d hd
  unfold spacingBody
  split
  · simp only
    split
    · exact spaceCol1_out ts n _ d (mixedBefore_out ts st d hd)
    · exact mixedAfter_out ts _ d (consecutiveAt_out ts n _ d (trailingAt_out ts _ d (mixedBefore_out ts st d hd)))
  · split
    · split
      · exact tabCol1_out ts st d hd
      · simpa using hd
    · simpa using hd

theorem spacingLoop_out (ts : List Token) (n fuel : Nat) (st : SpSt) : ∀ d ∈ st.out, d ∈ (spacingLoop ts n fuel st).out := by
  induction fuel generalizing st with
  | zero => intro d hd; simpa [spacingLoop] using hd
  | succ f ih =>
    intro d hd
    unfold spacingLoop
    split
    · exact ih _ d (spacingBody_out ts n st d hd)
    · exact hd

/-! ### progress: an iteration moves forward and never jumps over the start of a blank run -/

/-- `k` starts a run of blanks: the token before it (if any) is neither SPACE nor TAB -/
def RunStart (ts : List Token) (k : Nat) : Prop :=
  k = 0 ∨ (isTy ts (k - 1) "SPACE" = false ∧ isTy ts (k - 1) "TAB" = false)

theorem spacingBody_progress (ts : List Token) (n : Nat) (st : SpSt) (k : Nat)
    (hi : st.i < k) (hin : st.i < n) (hrs : RunStart ts k) :
    st.i < (spacingBody ts n st).i ∧ (spacingBody ts n st).i ≤ k := by
  have hk0 : k ≠ 0 := by omega
  obtain ⟨hs, ht⟩ : isTy ts (k - 1) "SPACE" = false ∧ isTy ts (k - 1) "TAB" = false := by
    rcases hrs with h | h
    · exact absurd h hk0
    · exact h
  unfold spacingBody
  split
  · rename_i hS
    simp only
    have hlt : st.i < k - 1 := by
      by_cases h : st.i = k - 1
      · rw [h] at hS; rw [hS] at hs; cases hs
      · omega
    split
    · -- column 1: skip the spaces (bounded by n)
      unfold spaceCol1
      simp only [mixedBefore_i]
      have hge := skipTy_succ_of ts "SPACE" (some n) ts.length st.i hS (by simp [inBound, hin])
      have hle := skipTy_le_of_not ts "SPACE" (some n) (ts.length + 1) st.i (k - 1) (by omega) hs
      split <;> simp only <;> omega
    · -- elsewhere: i + 1, then the following spaces
      rw [mixedAfter_i]
      unfold consecutiveAt
      simp only [trailingAt_i, mixedBefore_i]
      split
      · have hge := skipTy_ge ts "SPACE" (some n) (ts.length + 1) (st.i + 1)
        have hle := skipTy_le_of_not ts "SPACE" (some n) (ts.length + 1) (st.i + 1) (k - 1) (by omega) hs
        split <;> simp only <;> omega
      · simp only; omega
  · split
    · rename_i hT
      have hlt : st.i < k - 1 := by
        by_cases h : st.i = k - 1
        · rw [h] at hT; rw [hT] at ht; cases ht
        · omega
      split
      · unfold tabCol1
        simp only
        have hge := skipTy_succ_of ts "TAB" none ts.length st.i hT (by simp [inBound])
        have hle := skipTy_le_of_not ts "TAB" none (ts.length + 1) st.i (k - 1) (by omega) ht
        split <;> simp only <;> omega
      · simp only; omega
    · simp only; omega

/-- the loop reaches every run start inside the statement -/
theorem spacingLoop_reaches (ts : List Token) (n k : Nat) (hkn : k < n) (hkl : k < ts.length) (hrs : RunStart ts k) :
    ∀ (d : Nat) (st : SpSt) (fuel : Nat), k - st.i = d → st.i ≤ k → d < fuel →
      ∃ st' fuel', spacingLoop ts n fuel st = spacingLoop ts n fuel' st' ∧ st'.i = k ∧ 0 < fuel' ∧
        ∀ x ∈ st.out, x ∈ st'.out := by
  intro d
  induction d using Nat.strongRecOn with
  | ind d ih =>
    intro st fuel hd hle hf
    by_cases h : st.i = k
    · exact ⟨st, fuel, rfl, h, by omega, fun x hx => hx⟩
    · have hlt : st.i < k := by omega
      obtain ⟨f, rfl⟩ : ∃ f, fuel = f + 1 := ⟨fuel - 1, by omega⟩
      have hp := spacingBody_progress ts n st k hlt (by omega) hrs
      have hcond : st.i < min n ts.length := by simp only [Nat.lt_min]; omega
      obtain ⟨st', fuel', h1, h2, h3, h4⟩ :=
        ih (k - (spacingBody ts n st).i) (by omega) (spacingBody ts n st) f rfl hp.2 (by omega)
      refine ⟨st', fuel', ?_, h2, h3, fun x hx => h4 x (spacingBody_out ts n st x hx)⟩
      rw [← h1]
      conv => lhs; unfold spacingLoop
      simp [hcond]

end Norm

namespace Norm

/-! ### V01: a blank run that starts with a SPACE and ends at a NEWLINE is reported -/

theorem isBlank_not_nl (ts : List Token) (m : Nat) (h : isTy ts m "NEWLINE" = true) : isBlank ts m = false := by
  unfold isBlank isTy at *
  cases hk : ts[m]? with
  | none => rw [hk] at h; cases h
  | some t =>
    rw [hk] at h
    simp only [beq_iff_eq] at h
    simp [h]

/-- One iteration at a SPACE (not at column 1, not right after a brace) that starts a run of
blanks reaching a NEWLINE emits `SPC_BEFORE_NL` at that SPACE. -/
theorem spacingBody_trailing (ts : List Token) (n : Nat) (st : SpSt) (m : Nat) (tk : Token)
    (hS : isTy ts st.i "SPACE" = true) (htk : ts[st.i]? = some tk) (hcol : tk.col ≠ 1)
    (hkm : st.i < m) (hblank : ∀ j, st.i ≤ j → j < m → isBlank ts j = true)
    (hnl : isTy ts m "NEWLINE" = true) (hbr : braceBefore ts st.i = false) :
    tokDiag "SPC_BEFORE_NL" tk ∈ (spacingBody ts n st).out := by
  have hml := isTy_lt ts m "NEWLINE" hnl
  unfold spacingBody
  simp only [hS, ↓reduceIte]
  have hc1 : col1At ts (mixedBefore ts st).i = false := by
    rw [mixedBefore_i]; unfold col1At; rw [htk]; simp [hcol]
  simp only [hc1, Bool.false_eq_true, ↓reduceIte]
  apply mixedAfter_out
  apply consecutiveAt_out
  unfold trailingAt
  simp only [mixedBefore_i]
  have ht : skipWsST ts (ts.length + 1) st.i = m :=
    skipWsST_run ts (ts.length + 1) st.i m (by omega) (by omega) hblank (isBlank_not_nl ts m hnl)
  rw [ht]
  have hne : (m != st.i) = true := by simp; omega
  simp only [hne, hnl, hbr, Bool.not_false, Bool.and_self, ↓reduceIte]
  simp [emit, tokOrLast, htk]

/-- **`CheckSpacing` reports a trailing blank run**: in a statement matched by a primary other than
`IsEmptyLine` / `IsPreprocessorStatement`, a SPACE at index `k` inside the statement that is not
at column 1, starts a run of blanks (the token before it is neither SPACE nor TAB, nor a brace)
and is followed only by blanks up to a NEWLINE, gets `SPC_BEFORE_NL`. -/
theorem trailing_space_reported (rule : String) (ts : List Token) (n k m : Nat) (tk : Token)
    (hrule : rule ≠ "IsEmptyLine" ∧ rule ≠ "IsPreprocessorStatement")
    (hkn : k < n) (htk : ts[k]? = some tk) (hS : tk.type = "SPACE") (hcol : tk.col ≠ 1)
    (hrs : RunStart ts k) (hbr : braceBefore ts k = false)
    (hkm : k < m) (hblank : ∀ j, k ≤ j → j < m → isBlank ts j = true) (hnl : isTy ts m "NEWLINE" = true) :
    tokDiag "SPC_BEFORE_NL" tk ∈ checkSpacing rule ts n := by
  have hkl : k < ts.length := (List.getElem?_eq_some_iff.mp htk).1
  have hS' : isTy ts k "SPACE" = true := by unfold isTy; rw [htk]; simp [hS]
  unfold checkSpacing
  have : (rule == "IsEmptyLine" || rule == "IsPreprocessorStatement") = false := by simp [hrule.1, hrule.2]
  simp only [this, Bool.false_eq_true, ↓reduceIte]
  obtain ⟨st', fuel', h1, h2, h3, _⟩ :=
    spacingLoop_reaches ts n k hkn hkl hrs (k - 0) {} (ts.length + 1) rfl (Nat.zero_le k) (by simp; omega)
  rw [h1]
  obtain ⟨f, rfl⟩ : ∃ f, fuel' = f + 1 := ⟨fuel' - 1, by omega⟩
  unfold spacingLoop
  have hcond : st'.i < min n ts.length := by rw [h2]; simp only [Nat.lt_min]; omega
  simp only [hcond, ↓reduceIte]
  apply spacingLoop_out
  exact spacingBody_trailing ts n st' m tk (h2 ▸ hS') (h2 ▸ htk) hcol (h2 ▸ hkm) (h2 ▸ hblank) hnl (h2 ▸ hbr)

/-! ### C01: no diagnostic on cleanly spaced statements -/

/-- what conforming code guarantees about blanks: a SPACE is never at column 1, never next to
another blank and never before a NEWLINE; a TAB is never directly before a NEWLINE -/
structure WsClean (ts : List Token) : Prop where
  spaceCol : ∀ (i : Nat) (t : Token), ts[i]? = some t → t.type = "SPACE" → t.col ≠ 1
  spaceNext : ∀ i : Nat, isTy ts i "SPACE" = true → isBlank ts (i + 1) = false ∧ isTy ts (i + 1) "NEWLINE" = false
  spacePrev : ∀ i : Nat, isTy ts (i + 1) "SPACE" = true → isTy ts i "TAB" = false
  tabNl : ∀ i : Nat, isTy ts i "TAB" = true → isTy ts (i + 1) "NEWLINE" = false

theorem spacingBody_clean (ts : List Token) (n : Nat) (st : SpSt) (hc : WsClean ts) (hout : st.out = []) :
    (spacingBody ts n st).out = [] := by
  unfold spacingBody
  split
  · rename_i hS
    have hlt := isTy_lt ts st.i "SPACE" hS
    obtain ⟨tk, htk⟩ : ∃ tk, ts[st.i]? = some tk := ⟨ts[st.i], List.getElem?_eq_getElem hlt⟩
    have hty : tk.type = "SPACE" := by unfold isTy at hS; rw [htk] at hS; simpa using hS
    -- nothing before
    have hmb : mixedBefore ts st = st := by
      unfold mixedBefore
      have : isTy ts (if st.i > 0 then st.i - 1 else 0) "TAB" = false := by
        by_cases h0 : st.i > 0
        · simp only [h0, ↓reduceIte]
          have := hc.spacePrev (st.i - 1) (by rw [show st.i - 1 + 1 = st.i by omega]; exact hS)
          exact this
        · have h00 : st.i = 0 := by omega
          simp only [h0, ↓reduceIte]
          rw [h00] at htk
          unfold isTy; rw [htk]; simp [hty]
      simp [this]
    simp only [hmb]
    have hc1 : col1At ts st.i = false := by
      unfold col1At; rw [htk]; simp [hc.spaceCol st.i tk htk hty]
    simp only [hc1, Bool.false_eq_true, ↓reduceIte]
    obtain ⟨hb, hn⟩ := hc.spaceNext st.i hS
    have hskip : skipWsST ts (ts.length + 1) st.i = st.i + 1 := by
      apply skipWsST_run ts (ts.length + 1) st.i (st.i + 1) (by omega) (by omega)
      · intro j h1 h2
        have : j = st.i := by omega
        subst this; unfold isBlank; simp [hS]
      · exact hb
    have htr : trailingAt ts st = st := by
      unfold trailingAt; simp only [hskip, hn]; simp
    rw [htr]
    have hsp : isTy ts (st.i + 1) "SPACE" = false := by
      unfold isBlank at hb; simp only [Bool.or_eq_false_iff] at hb; exact hb.1.1
    have htb : isTy ts (st.i + 1) "TAB" = false := by
      unfold isBlank at hb; simp only [Bool.or_eq_false_iff] at hb; exact hb.1.2
    have hca : consecutiveAt ts n st = { st with i := st.i + 1 } := by
      unfold consecutiveAt; simp [hsp]
    rw [hca]
    unfold mixedAfter
    simp [htb, hout]
  · split
    · rename_i hT
      split
      · unfold tabCol1
        simp only
        have hge := skipTy_succ_of ts "TAB" none ts.length st.i hT (by simp [inBound])
        -- the token just before the stop is a TAB, so the stop is not a NEWLINE
        have hj : isTy ts (skipTy ts "TAB" none (ts.length + 1) st.i) "NEWLINE" = false := by
          have hprev := (skipTy_all ts "TAB" none (ts.length + 1) st.i
            (skipTy ts "TAB" none (ts.length + 1) st.i - 1) (by omega) (by omega)).1
          have := hc.tabNl _ hprev
          rwa [show skipTy ts "TAB" none (ts.length + 1) st.i - 1 + 1 = skipTy ts "TAB" none (ts.length + 1) st.i by omega] at this
        simp only [hj, Bool.false_eq_true, ↓reduceIte]
        exact hout
      · simp [hout]
    · simp [hout]

theorem spacingLoop_clean (ts : List Token) (n : Nat) (hc : WsClean ts) (fuel : Nat) (st : SpSt) (hout : st.out = []) :
    (spacingLoop ts n fuel st).out = [] := by
  induction fuel generalizing st with
  | zero => simpa [spacingLoop] using hout
  | succ f ih =>
    unfold spacingLoop
    split
    · exact ih _ (spacingBody_clean ts n st hc hout)
    · exact hout

/-- **`CheckSpacing` is silent on cleanly spaced tokens**, whatever the statement and the rule. -/
theorem checkSpacing_clean (rule : String) (ts : List Token) (n : Nat) (hc : WsClean ts) :
    checkSpacing rule ts n = [] := by
  unfold checkSpacing
  split
  · rfl
  · exact spacingLoop_clean ts n hc _ {} rfl

/-! ### lifting to a suffix of the file's token list -/

theorem isTy_drop (toks : List Token) (s i : Nat) (ty : String) : isTy (toks.drop s) i ty = isTy toks (s + i) ty := by
  unfold isTy; rw [List.getElem?_drop]

theorem isBlank_drop (toks : List Token) (s i : Nat) : isBlank (toks.drop s) i = isBlank toks (s + i) := by
  unfold isBlank; simp only [isTy_drop]

theorem WsClean.drop {toks : List Token} (hc : WsClean toks) (s : Nat) : WsClean (toks.drop s) where
  spaceCol := by intro i t h; rw [List.getElem?_drop] at h; exact hc.spaceCol _ t h
  spaceNext := by
    intro i h; rw [isTy_drop] at h
    have := hc.spaceNext _ h
    rw [isBlank_drop, isTy_drop]; exact this
  spacePrev := by
    intro i h; rw [isTy_drop] at h ⊢
    exact hc.spacePrev _ (by rw [Nat.add_assoc]; exact h)
  tabNl := by
    intro i h; rw [isTy_drop] at h ⊢
    have := hc.tabNl _ h
    rw [Nat.add_assoc] at this; exact this

/-- **File level**: a cleanly spaced token list gets nothing from `CheckSpacing`, for every trace. -/
theorem spacingDiagsRun_clean (toks : List Token) (trace : List Segment) (hc : WsClean toks) :
    spacingDiagsRun toks trace = [] := by
  unfold spacingDiagsRun
  rw [List.flatMap_eq_nil_iff]
  intro g _
  exact checkSpacing_clean g.rule _ g.len (hc.drop g.start)

end Norm

namespace Norm

/-! ### termination of the loop of `CheckSpacing` (C05, rule level) -/

/-- every iteration moves the index forward, whatever the tokens are: the index past the last token is a run start -/
theorem spacingBody_advances (ts : List Token) (n : Nat) (st : SpSt) (hin : st.i < n) (hl : st.i < ts.length) :
    st.i < (spacingBody ts n st).i :=
  have hend : ∀ ty, isTy ts (ts.length + 1 - 1) ty = false := fun ty =>
    Bool.eq_false_iff.mpr fun h => Nat.lt_irrefl _ (isTy_lt ts _ ty h)
  (spacingBody_progress ts n st (ts.length + 1) (by omega) hin (Or.inr ⟨hend _, hend _⟩)).1

/-- **The loop of `CheckSpacing` ends by its own condition**: with the fuel the model gives it
(`|ts| + 1`) it stops only when the index has left the statement — the `while` of the real rule
terminates on every token list. -/
theorem spacingLoop_terminates (ts : List Token) (n : Nat) :
    ∀ (fuel : Nat) (st : SpSt), min n ts.length - st.i < fuel →
      min n ts.length ≤ (spacingLoop ts n fuel st).i := by
  intro fuel
  induction fuel with
  | zero => intro st h; omega
  | succ f ih =>
    intro st h
    unfold spacingLoop
    split
    · rename_i hc
      have hadv := spacingBody_advances ts n st (by omega) (by omega)
      exact ih _ (by omega)
    · omega

end Norm
