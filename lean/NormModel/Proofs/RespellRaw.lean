/- Reading equivalence and the raw look-aheads of the lexer: a run of characters that have no alternative
spelling and start none is the same raw text in two texts that read the same. -/
import NormModel.Proofs.Respell
import NormModel.Proofs.NumPrefixGen
namespace Norm
open Spec

/-- read as itself, and only from itself -/
def Plain (c : Char) : Prop := c ∉ altTargets ∧ c ≠ '?' ∧ c ≠ '<' ∧ c ≠ '%' ∧ c ≠ ':'

instance (c : Char) : Decidable (Plain c) := by unfold Plain; infer_instance

theorem altTargets_punct : ∀ p ∈ altTargets, isPunct p = true := by
  unfold altTargets; rw [String.toList_ofList]; decide

/-- `\w` characters (and so digits, hexadecimal digits, identifier characters) have one spelling only -/
theorem Plain.of_isW (u : Uni) {c : Char} (h : u.isW c = true) : Plain c :=
  ⟨fun hm => ne_of_isW u h (altTargets_punct c hm) rfl, ne_of_isW u h (by decide), ne_of_isW u h (by decide),
    ne_of_isW u h (by decide), ne_of_isW u h (by decide)⟩
theorem Plain.of_word {c : Char} (h : c ∈ wordChars) : Plain c := .of_isW {} (isW_of_word {} h)

theorem ReadEq.nil_left {b : List Char} (h : ReadEq [] b) : b = [] := by
  rcases h.peek with ⟨_, _, _, hb⟩ | ⟨c, ka, kb, h1, _, _⟩
  · exact hb
  · simp [peek1, triAt, diAt] at h1

theorem ReadEq.nil_right {a : List Char} (h : ReadEq a []) : a = [] := h.symm.nil_left

theorem peek1_plain {x : Char} (hx : Plain x) (l : List Char) : peek1 (x :: l) 0 = some (x, 1) :=
  peek1_raw hx.2.1 hx.2.2.1 hx.2.2.2.1 hx.2.2.2.2

/-- a raw character that is read as itself and has no other spelling is at the head of both texts -/
theorem ReadEq.head_raw {a' b : List Char} {x : Char} (h : ReadEq (x :: a') b) (hp : peek1 (x :: a') 0 = some (x, 1))
    (hx : x ∉ altTargets) : ∃ b', b = x :: b' ∧ ReadEq a' b' := by
  rcases h.peek with ⟨h1, _, _, _⟩ | ⟨c, ka, kb, h1, h2, h3⟩
  · rw [hp] at h1; cases h1
  · rw [hp] at h1
    simp only [Option.some.injEq, Prod.mk.injEq] at h1
    obtain ⟨rfl, rfl⟩ := h1
    obtain ⟨rfl, tl, rfl⟩ := peek1_unspelled h2 hx
    exact ⟨tl, rfl, by simpa using h3⟩

theorem ReadEq.head_plain {a' b : List Char} {x : Char} (h : ReadEq (x :: a') b) (hx : Plain x) :
    ∃ b', b = x :: b' ∧ ReadEq a' b' := h.head_raw (peek1_plain hx a') hx.1

/-- a plain raw prefix of one text is a prefix of the other -/
theorem ReadEq.prefix_plain {pre a' b : List Char} (h : ReadEq (pre ++ a') b) (hp : ∀ c ∈ pre, Plain c) :
    ∃ b', b = pre ++ b' ∧ ReadEq a' b' := by
  induction pre generalizing b with
  | nil => exact ⟨b, rfl, h⟩
  | cons x pre ih =>
    obtain ⟨b1, rfl, h1⟩ := ReadEq.head_plain (by simpa using h) (hp x (by simp))
    obtain ⟨b', rfl, h2⟩ := ih h1 (fun c hc => hp c (List.mem_cons_of_mem _ hc))
    exact ⟨b', rfl, h2⟩

/-- **The head through a class of plain characters**: both texts start with the same character of the class, or both
are empty, or both start with a character outside it. -/
theorem ReadEq.head_cases (q : Char → Bool) (hq : ∀ c, q c = true → Plain c) {a b : List Char} (h : ReadEq a b) :
    (∃ c a' b', a = c :: a' ∧ b = c :: b' ∧ q c = true ∧ ReadEq a' b') ∨ (a = [] ∧ b = []) ∨
    (∃ x a' y b', a = x :: a' ∧ b = y :: b' ∧ q x = false ∧ q y = false) := by
  cases a with
  | nil => exact Or.inr (Or.inl ⟨rfl, h.nil_left⟩)
  | cons x a' =>
    cases hx : q x with
    | true =>
      obtain ⟨b', rfl, h1⟩ := h.head_plain (hq x hx)
      exact Or.inl ⟨x, a', b', rfl, rfl, hx, h1⟩
    | false =>
      cases b with
      | nil => exact nomatch h.nil_right
      | cons y b' =>
        cases hy : q y with
        | false => exact Or.inr (Or.inr ⟨x, a', y, b', rfl, rfl, hx, hy⟩)
        | true =>
          obtain ⟨a'', e, _⟩ := h.symm.head_plain (hq y hy)
          cases e
          rw [hx] at hy; cases hy

/-- **Raw runs**: a `takeWhile` over a class of plain characters sees the same run in both texts -/
theorem takeWhile_readEq (p : Char → Bool) (hp : ∀ c, p c = true → Plain c) {a b : List Char} (h : ReadEq a b) :
    a.takeWhile p = b.takeWhile p ∧ ReadEq (a.dropWhile p) (b.dropWhile p) := by
  induction a generalizing b with
  | nil => rw [h.nil_left]; exact ⟨rfl, ReadEq.nil⟩
  | cons x a' ih =>
    rcases h.head_cases p hp with ⟨c, a'', b', ea, rfl, hc, h1⟩ | ⟨ea, _⟩ | ⟨x', a'', y, b', ea, rfl, hx, hy⟩
    · cases ea
      simp only [List.takeWhile_cons, List.dropWhile_cons, hc, ↓reduceIte]
      exact ⟨by rw [(ih h1).1], (ih h1).2⟩
    · cases ea
    · cases ea
      simp only [List.takeWhile_cons, List.dropWhile_cons, hx, hy, Bool.false_eq_true, ↓reduceIte]
      exact ⟨trivial, h⟩

theorem ReadEq.takeWhile_eq {a b : List Char} (h : ReadEq a b) {p : Char → Bool} (hp : ∀ c, p c = true → Plain c) :
    a.takeWhile p = b.takeWhile p := (takeWhile_readEq p hp h).1

theorem ReadEq.dropWhile {a b : List Char} (h : ReadEq a b) {p : Char → Bool} (hp : ∀ c, p c = true → Plain c) :
    ReadEq (a.dropWhile p) (b.dropWhile p) := (takeWhile_readEq p hp h).2

/-! ### raw look-aheads -/

theorem rawPeek_eq_some {l w : List Char} {n : Nat} (hn : w.length = n) (hpos : 0 < n) :
    rawPeek l 0 n = some w ↔ ∃ tl, l = w ++ tl := by
  unfold rawPeek
  constructor
  · intro h
    split at h
    · simp only [List.drop_zero, Option.some.injEq] at h
      exact ⟨l.drop n, by rw [← h, List.take_append_drop]⟩
    · cases h
  · rintro ⟨tl, rfl⟩
    subst hn
    rw [if_pos (by simp; omega)]
    simp

/-- a word that is spelled the same in every text that reads the same -/
def RawWord (w : List Char) : Prop := ∀ {ta b : List Char}, ReadEq (w ++ ta) b → ∃ tb, b = w ++ tb ∧ ReadEq ta tb

theorem rawWord_plain {w : List Char} (hw : ∀ c ∈ w, Plain c) : RawWord w := fun h => h.prefix_plain hw

/-- **Raw look-aheads**: the lexer compares the next `n` raw characters with a word (`//`, `/*`, a quote, `>>=`, `<<=`,
`...`); for a word with one spelling the answer is the same in both texts. -/
theorem rawPeek_readEq {w : List Char} (hw : RawWord w) {n : Nat} (hn : w.length = n) (hpos : 0 < n) {a b : List Char}
    (h : ReadEq a b) : (rawPeek a 0 n == some w) = (rawPeek b 0 n == some w) := by
  have key : ∀ {l m : List Char}, ReadEq l m → rawPeek l 0 n = some w → rawPeek m 0 n = some w := by
    intro l m hlm hl
    obtain ⟨tl, rfl⟩ := (rawPeek_eq_some hn hpos).mp hl
    obtain ⟨tm, rfl, _⟩ := hw hlm
    exact (rawPeek_eq_some hn hpos).mpr ⟨tm, rfl⟩
  rw [Bool.eq_iff_iff, beq_iff_eq, beq_iff_eq]
  exact ⟨key h, key h.symm⟩

end Norm
