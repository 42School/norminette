/- Invariants of the engine loop, for every rule table (`step`). -/
import NormModel.Model.Engine
namespace Norm

/-- how many times token index `i` has been accounted for: segments containing it plus
occurrences in the unrecognised list -/
def cover (trace : List Segment) (unrec : List Nat) (i : Nat) : Nat :=
  (trace.filter (fun g => decide (g.start ≤ i ∧ i < g.start + g.len))).length + unrec.count i

theorem cover_nil (i : Nat) : cover [] [] i = 0 := by simp [cover]

theorem cover_snoc_seg (trace : List Segment) (u : List Nat) (g : Segment) (i : Nat) :
    cover (trace ++ [g]) u i = cover trace u i + (if g.start ≤ i ∧ i < g.start + g.len then 1 else 0) := by
  unfold cover
  simp only [List.filter_append, List.length_append, List.filter_cons, List.filter_nil]
  split <;> simp_all <;> omega

theorem cover_snoc_unrec (trace : List Segment) (u : List Nat) (p i : Nat) :
    cover trace (u ++ [p]) i = cover trace u i + (if i = p then 1 else 0) := by
  unfold cover
  by_cases h : i = p
  · subst h; simp [List.count_append]; omega
  · have h' : ¬ p = i := fun e => h e.symm
    simp [List.count_append, h, h']

/-- the loop invariant -/
structure EInv (N pos n : Nat) (trace : List Segment) (unrec dropped : List Nat) (debug : Nat) : Prop where
  total : pos + n = N
  cov : ∀ i, cover trace (dropped ++ unrec) i = if i < pos then 1 else 0
  segs : ∀ g ∈ trace, 1 ≤ g.len ∧ g.start + g.len ≤ pos
  nodrop : debug = 0 → dropped = []

/-- what a finished run guarantees -/
structure EPost (N : Nat) (trace : List Segment) (u : List Nat) : Prop where
  cov : ∀ i, cover trace u i = if i < N then 1 else 0
  segs : ∀ g ∈ trace, 1 ≤ g.len ∧ g.start + g.len ≤ N

theorem einv_init (n debug : Nat) : EInv n 0 n [] [] [] debug where
  total := by omega
  cov := by intro i; simp [cover]
  segs := by intro g hg; cases hg
  nodrop := fun _ => rfl

theorem engineLoop_post {σ : Type} (step : σ → Nat → StepRes σ) (debug N : Nat)
    (fuel : Nat) (s : σ) (pos n : Nat) (trace : List Segment) (unrec dropped : List Nat)
    (inv : EInv N pos n trace unrec dropped debug) (s' : σ) (t : List Segment) (u : List Nat)
    (h : engineLoop step debug fuel s pos n trace unrec dropped = .ok s' t u) :
    EPost N t u ∧ (debug = 0 → u = []) := by
  fun_induction engineLoop step debug fuel s pos n trace unrec dropped
  all_goals try (simp at h; done)
  next hq =>
    obtain ⟨_, rfl, rfl⟩ := EngineOut.ok.inj h
    have hpos := inv.total
    simp only [Nat.add_zero] at hpos
    subst hpos
    exact ⟨⟨inv.cov, inv.segs⟩, fun hd => by simp [inv.nodrop hd, Classical.not_not.mp fun hu => hq ⟨hu, hd⟩]⟩
  next hn _ _ ih =>
    refine ih ⟨by have := inv.total; omega, fun i => ?_, fun g hg => ?_, inv.nodrop⟩ h
    · rw [← List.append_assoc, cover_snoc_unrec, inv.cov i]
      repeat' split
      all_goals omega
    · have := inv.segs g hg; omega
  next n _ _ _ hn rule jump _ _ hj hq k ih =>
    have hk : 1 ≤ k ∧ k ≤ n := by omega
    refine ih ⟨by have := inv.total; omega, fun i => ?_, fun g hg => ?_, fun hd => ?_⟩ h
    · rw [List.append_nil, cover_snoc_seg, inv.cov i]
      simp only
      repeat' split
      all_goals omega
    · rcases List.mem_append.mp hg with hg | hg
      · have := inv.segs g hg; omega
      · cases List.mem_singleton.mp hg; exact ⟨hk.1, Nat.le_refl _⟩
    · simp [inv.nodrop hd, Classical.not_not.mp fun hu => hq ⟨hu, hd⟩]

/-- what a run that reaches a verdict guarantees: the source of every statement of C07 -/
theorem engineRun_post {σ : Type} {step : σ → Nat → StepRes σ} {debug : Nat} {s s' : σ} {n : Nat}
    {t : List Segment} {u : List Nat} (h : engineRun step debug s n = .ok s' t u) :
    EPost n t u ∧ (debug = 0 → u = []) :=
  engineLoop_post step debug n _ _ _ _ _ _ _ (einv_init n debug) _ _ _ h

/-- with `debug = 0`, every token index lies in some statement of a run that reaches a verdict -/
theorem engineRun_covers {σ : Type} {step : σ → Nat → StepRes σ} {s s' : σ} {n : Nat}
    {t : List Segment} {u : List Nat} (h : engineRun step 0 s n = .ok s' t u) {i : Nat} (hi : i < n) :
    ∃ g ∈ t, g.start ≤ i ∧ i < g.start + g.len := by
  have post := engineRun_post h
  have hc := post.1.cov i
  rw [post.2 rfl] at hc
  simp only [cover, List.count_nil, Nat.add_zero, hi, ↓reduceIte] at hc
  obtain ⟨g, hg⟩ := List.exists_mem_of_length_pos (Nat.lt_of_lt_of_eq Nat.zero_lt_one hc.symm)
  exact ⟨g, (List.mem_filter.mp hg).1, of_decide_eq_true (List.mem_filter.mp hg).2⟩

/-- Termination: with fuel > n the loop never runs out of fuel; `hang` only comes from a
rule that does not return. -/
theorem engineLoop_no_hang {σ : Type} (step : σ → Nat → StepRes σ) (debug : Nat)
    (hstep : ∀ s p, ∀ (_ : step s p = .hang), False)
    (fuel : Nat) (s : σ) (pos n : Nat) (trace : List Segment) (unrec dropped : List Nat)
    (hf : n < fuel) : engineLoop step debug fuel s pos n trace unrec dropped ≠ .hang := by
  fun_induction engineLoop step debug fuel s pos n trace unrec dropped
  all_goals try (simp; done)
  · omega
  next hh => exact absurd hh (hstep _ _)
  next ih => exact ih (by omega)
  next ih => exact ih (by omega)

/-- A crash of the run is a crash of some rule call (the loop itself raises nothing else). -/
theorem engineLoop_crash {σ : Type} (step : σ → Nat → StepRes σ) (debug : Nat)
    (fuel : Nat) (s : σ) (pos n : Nat) (trace : List Segment) (unrec dropped : List Nat) (w : String)
    (h : engineLoop step debug fuel s pos n trace unrec dropped = .crash w) : ∃ s p, step s p = .crash w := by
  fun_induction engineLoop step debug fuel s pos n trace unrec dropped
  all_goals try (simp at h; done)
  next hw => cases h; exact ⟨_, _, hw⟩
  next ih => exact ih h
  next ih => exact ih h

end Norm
