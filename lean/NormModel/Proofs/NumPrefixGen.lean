/- The exponent matchers return a prefix of the raw input made of characters of their classes.  Stated for any property
`P` of characters that the classes have: with `cleanChar` it places the diagnostics (`NumPrefix`), with `Plain` it shows
that what is left after the exponent reads the same in two spellings (`RespellNum`). -/
import NormModel.Model.Lexer
namespace Norm

/-- `e` is a prefix of `l`, all of whose characters have `P` -/
def PPrefix (P : Char → Prop) (e l : List Char) : Prop := e <+: l ∧ ∀ c ∈ e, P c

variable {P : Char → Prop}

theorem PPrefix.nil (l : List Char) : PPrefix P [] l := ⟨List.nil_prefix, by simp⟩

theorem PPrefix.takeWhile {q : Char → Bool} (hq : ∀ c, q c = true → P c) (l : List Char) : PPrefix P (l.takeWhile q) l :=
  ⟨List.takeWhile_prefix _, fun c hc => hq c (List.all_eq_true.mp List.all_takeWhile c hc)⟩

theorem PPrefix.cons {c : Char} {e tl : List Char} (hc : P c) (h : PPrefix P e tl) : PPrefix P (c :: e) (c :: tl) := by
  obtain ⟨⟨r, hr⟩, hcl⟩ := h
  refine ⟨⟨r, by simp [hr]⟩, ?_⟩
  intro x hx
  simp only [List.mem_cons] at hx
  rcases hx with rfl | hx
  · exact hc
  · exact hcl x hx

theorem PPrefix.append {a b l : List Char} (ha : PPrefix P a l) (hb : PPrefix P b (l.drop a.length)) : PPrefix P (a ++ b) l := by
  obtain ⟨⟨r, hr⟩, hca⟩ := ha
  obtain ⟨⟨r', hr'⟩, hcb⟩ := hb
  subst hr
  simp only [List.drop_left] at hr'
  subst hr'
  refine ⟨⟨r', by simp⟩, ?_⟩
  intro x hx
  rcases List.mem_append.mp hx with h | h
  · exact hca x h
  · exact hcb x h

theorem drop_takeWhile_length (q : Char → Bool) (l : List Char) : l.drop (l.takeWhile q).length = l.dropWhile q := by
  induction l with
  | nil => rfl
  | cons x xs ih =>
    by_cases h : q x = true
    · simp [h, ih]
    · simp [h]

theorem take_takeWhile_length (q : Char → Bool) (l : List Char) : l.take (l.takeWhile q).length = l.takeWhile q := by
  induction l with
  | nil => rfl
  | cons x xs ih =>
    by_cases h : q x = true
    · simp [h, ih]
    · simp [h]

/-- the optional tail of the third alternative is a `takeWhile` over a class with `P` -/
def PTail (P : Char → Prop) (tail : List Char → Nat) : Prop :=
  ∃ q : Char → Bool, (∀ c, q c = true → P c) ∧ ∀ l, tail l = (l.takeWhile q).length

theorem expIter_pprefix (isL : Char → Bool) (hL : ∀ c, isL c = true → P c) (hS : ∀ c, (c == '+' || c == '-') = true → P c)
    (tail : List Char → Nat) (ht : PTail P tail) (fuel : Nat) (l : List Char) : PPrefix P (expIter isL tail fuel l) l := by
  obtain ⟨q, hq, hqt⟩ := ht
  induction fuel generalizing l with
  | zero => exact PPrefix.nil _
  | succ fuel ih =>
    unfold expIter
    cases l with
    | nil => exact PPrefix.nil _
    | cons c tl =>
      simp only
      by_cases hc : isL c = true
      · simp only [hc, ↓reduceIte]
        have key : ∀ (sign tl1 : List Char), tl = sign ++ tl1 → (∀ x ∈ sign, P x) →
            PPrefix P (c :: sign ++ tl1.take (tail tl1) ++ expIter isL tail fuel (tl1.drop (tail tl1))) (c :: tl) := by
          intro sign tl1 e hs
          have h1 : PPrefix P sign tl := ⟨⟨tl1, e.symm⟩, hs⟩
          have h2 : PPrefix P (tl1.take (tail tl1)) (tl.drop sign.length) := by
            rw [e, List.drop_left, hqt, take_takeWhile_length]
            exact PPrefix.takeWhile hq tl1
          have h3 : PPrefix P (expIter isL tail fuel (tl1.drop (tail tl1))) (tl.drop (sign ++ tl1.take (tail tl1)).length) := by
            have : tl.drop (sign ++ tl1.take (tail tl1)).length = tl1.drop (tail tl1) := by
              rw [e, List.length_append, ← List.drop_drop, List.drop_left, hqt, take_takeWhile_length]
            rw [this]; exact ih _
          have := PPrefix.cons (hL c hc) ((h1.append h2).append h3)
          simpa [List.append_assoc] using this
        cases tl with
        | nil => exact key [] [] rfl (by simp)
        | cons s r =>
          simp only
          by_cases hsg : (s == '+' || s == '-') = true
          · simp only [hsg, ↓reduceIte]
            exact key [s] r rfl (by intro x hx; simp only [List.mem_singleton] at hx; subst hx; exact hS x hsg)
          · simp only [hsg, Bool.false_eq_true, ↓reduceIte]
            exact key [] (s :: r) rfl (by simp)
      · simp only [hc, Bool.false_eq_true, ↓reduceIte]
        exact PPrefix.nil _

theorem matchExp_pprefix (isL isD : Char → Bool) (hL : ∀ c, isL c = true → P c) (hD : ∀ c, isD c = true → P c)
    (hS : ∀ c, (c == '+' || c == '-') = true → P c)
    (tail : List Char → Nat) (ht : PTail P tail) (l : List Char) : PPrefix P (matchExp isL isD tail l) l := by
  unfold matchExp spanP
  simp only
  by_cases hls : (l.takeWhile isL).isEmpty = true
  · simp only [hls, ↓reduceIte]; exact PPrefix.nil _
  · simp only [hls, Bool.false_eq_true, ↓reduceIte]
    have h1 : PPrefix P (l.takeWhile isL) l := PPrefix.takeWhile hL l
    have fallback : PPrefix P (if (!((l.dropWhile isL).takeWhile isD).isEmpty) = true then l.takeWhile isL ++ (l.dropWhile isL).takeWhile isD
        else expIter isL tail (l.length + 1) l) l := by
      split
      · apply h1.append
        rw [drop_takeWhile_length]
        exact PPrefix.takeWhile hD _
      · exact expIter_pprefix isL hL hS tail ht _ l
    cases hafter : l.dropWhile isL with
    | nil => simp only; rw [hafter] at fallback; exact fallback
    | cons s r =>
      simp only
      by_cases hsg : (s == '+' || s == '-') = true
      · simp only [hsg, ↓reduceIte]
        by_cases hds : (r.takeWhile isD).isEmpty = true
        · simp only [hds, ↓reduceIte]; rw [hafter] at fallback; exact fallback
        · simp only [hds, Bool.false_eq_true, ↓reduceIte]
          rw [List.append_assoc]
          apply h1.append
          rw [drop_takeWhile_length, hafter]
          exact PPrefix.cons (hS s hsg) (PPrefix.takeWhile hD r)
      · simp only [hsg, Bool.false_eq_true, ↓reduceIte]; rw [hafter] at fallback; exact fallback

end Norm
