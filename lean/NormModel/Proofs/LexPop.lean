/- `popOne` / `popN` refine the position specification. -/
import NormModel.Proofs.LexPeek
import NormModel.Proofs.Chars
namespace Norm
open Spec

theorem peek1_first_raw {rest : List Char} {off : Nat} {t : Char} {k : Nat}
    (h : peek1 rest off = some (t, k)) :
    off + 1 ≤ rest.length ∧
    ∃ r, (rest.drop off).head? = some r ∧ ((k = 1 ∧ r = t) ∨ (cleanChar r ∧ cleanChar t)) := by
  obtain ⟨h1, h2, h3 | ⟨h3, h4, h5⟩⟩ := peek1_spec h
  · exact ⟨by omega, t, h3.2, Or.inl ⟨h3.1, rfl⟩⟩
  · refine ⟨by omega, ?_⟩
    cases hd : rest.drop off with
    | nil =>
      have := congrArg List.length hd
      simp at this; omega
    | cons r tl =>
      refine ⟨r, rfl, Or.inr ⟨?_, h5⟩⟩
      apply h4 r
      rw [hd]
      cases k with
      | zero => omega
      | succ k => simp

theorem clean_append {a b : List Char} (ha : Clean a) (hb : Clean b) : Clean (a ++ b) := by
  intro x hx
  rcases List.mem_append.mp hx with h | h
  · exact ha x h
  · exact hb x h

theorem take_add_prefix {l pre : List Char} {n : Nat} (h : pre <+: l.drop n) :
    l.take (n + pre.length) = l.take n ++ pre := by
  rw [List.take_add]
  congr 1
  exact List.prefix_iff_eq_take.mp h |>.symm

theorem prefix_length_le_drop {l pre : List Char} {n : Nat} (h : pre <+: l.drop n) (hn : n ≤ l.length) :
    n + pre.length ≤ l.length := by
  have := h.length_le
  simp only [List.length_drop] at this
  omega

theorem simpleEscapes_clean : ∀ c ∈ simpleEscapes, cleanChar c := by
  unfold simpleEscapes; rw [String.toList_ofList]; decide
theorem clean_of_word {c : Char} (h : c ∈ wordChars) : cleanChar c := ⟨ne_of_word h (by decide), ne_of_word h (by decide)⟩
theorem isHexDigit_clean {c : Char} (h : isHexDigit c = true) : cleanChar c := clean_of_word (hex_sub_word (isHexDigit_iff.mp h))
theorem isOctal_clean {c : Char} (h : isOctal c = true) : cleanChar c :=
  clean_of_word (dec_sub_word (oct_sub_dec (isOctal_iff.mp h)))

theorem clean_takeWhile {p : Char → Bool} (hp : ∀ c, p c = true → cleanChar c) (l : List Char) :
    Clean (l.takeWhile p) := by
  intro x hx
  exact hp x (List.all_eq_true.mp List.all_takeWhile x hx)

/-- The escape handling of `pop(use_escape=True)`: it consumes `sz'` raw characters in all,
all on the same line; the column moves by `sz'` plus the tab adjustment. -/
theorem escape_spec (s : LexSt) (sz : Nat) (t : Char) (k : Nat)
    (hp : peek1 s.rest 0 = some ('\\', sz)) (hq : peek1 s.rest sz = some (t, k)) (ht : t ≠ '\n') :
    let r := escape s sz t k
    1 ≤ r.2.1 ∧ r.2.1 ≤ s.rest.length ∧ (∀ d ∈ r.2.2.1, DiagAt s d) ∧
    advPos (s.line, s.col) (s.rest.take r.2.1) = (s.line, s.col + r.2.2.2 + r.2.1) := by
  obtain ⟨hsz1, hszlen, _⟩ := peek1_spec hp
  simp only [Nat.zero_add] at hszlen
  have hcl : Clean (s.rest.take sz) := peek1_clean hp (by decide)
  obtain ⟨hlen1, r, hr, hrt⟩ := peek1_first_raw hq
  obtain ⟨hk1, hklen, hkspec⟩ := peek1_spec hq
  have htake : s.rest.take (sz + 1) = s.rest.take sz ++ [r] := take_succ_of_head hr
  have htakek : s.rest.take (sz + k) = s.rest.take sz ++ (s.rest.drop sz).take k := List.take_add
  -- the generic "sz+1 clean characters" conclusion
  have clean1 : cleanChar r → advPos (s.line, s.col) (s.rest.take (sz + 1)) = (s.line, s.col + 0 + (sz + 1)) := by
    intro hrc
    have : Clean (s.rest.take (sz + 1)) := by
      rw [htake]; exact clean_append hcl (by intro x hx; simp at hx; subst hx; exact hrc)
    rw [advPos_clean _ _ this]
    simp [List.length_take]; omega
  -- the spelling of `t` is clean unless it is a raw tab
  have cleank : t ≠ '\t' → advPos (s.line, s.col) (s.rest.take (sz + k)) = (s.line, s.col + 0 + (sz + k)) := by
    intro htab
    have hc2 : Clean ((s.rest.drop sz).take k) := by
      rcases hkspec with ⟨rfl, hh⟩ | ⟨_, hc, _⟩
      · intro x hx
        cases hd : s.rest.drop sz with
        | nil => rw [hd] at hx; simp at hx
        | cons y ys =>
          rw [hd] at hh hx
          simp at hh hx
          subst hh; subst hx
          exact ⟨ht, htab⟩
      · exact hc
    rw [htakek, advPos_clean _ _ (clean_append hcl hc2)]
    simp [List.length_take]; omega
  unfold escape
  simp only
  split
  · -- simple escape
    rename_i hs
    have htab : t ≠ '\t' := (simpleEscapes_clean t (by simpa using hs)).2
    exact ⟨Nat.le_trans hsz1 (Nat.le_add_right _ _), hklen, by simp, cleank htab⟩
  · split
    · -- \x
      rename_i _ hx
      have htx : t = 'x' := by simpa using hx
      have hrc : cleanChar r := by
        rcases hrt with ⟨_, rfl⟩ | ⟨h, _⟩
        · rw [htx]; decide
        · exact h
      simp only [takeWhileFrom]
      by_cases hds : ((s.rest.drop (sz + 1)).takeWhile isHexDigit).isEmpty = true
      · simp only [hds, ↓reduceIte]
        refine ⟨Nat.le_add_left 1 sz, hlen1, ?_, clean1 hrc⟩
        intro d hd; simp at hd; subst hd
        exact DiagAt.ahead sz (mkDiag_highlights _ _ _) (by omega) hcl (by simp)
      · -- hex digits
        simp only [hds, Bool.false_eq_true, ↓reduceIte]
        have hpre : (s.rest.drop (sz + 1)).takeWhile isHexDigit <+: s.rest.drop (sz + 1) := List.takeWhile_prefix _
        have hcl2 : Clean ((s.rest.drop (sz + 1)).takeWhile isHexDigit) := clean_takeWhile (fun c => isHexDigit_clean) _
        refine ⟨Nat.le_trans (Nat.le_add_left 1 sz) (Nat.le_add_right _ _), prefix_length_le_drop hpre hlen1, by simp, ?_⟩
        rw [take_add_prefix hpre]
        have : Clean (s.rest.take (sz + 1) ++ (s.rest.drop (sz + 1)).takeWhile isHexDigit) := by
          rw [htake]
          exact clean_append (clean_append hcl (by intro x hx; simp at hx; subst hx; exact hrc)) hcl2
        rw [advPos_clean _ _ this]
        simp [List.length_take]; omega
    · split
      · -- octal
        simp only [takeWhileFrom]
        have hpre : (s.rest.drop sz).takeWhile isOctal <+: s.rest.drop sz := List.takeWhile_prefix _
        have hcl2 : Clean ((s.rest.drop sz).takeWhile isOctal) := clean_takeWhile (fun c => isOctal_clean) _
        refine ⟨Nat.le_trans hsz1 (Nat.le_add_right _ _), prefix_length_le_drop hpre hszlen, by simp, ?_⟩
        rw [take_add_prefix hpre, advPos_clean _ _ (clean_append hcl hcl2)]
        simp [List.length_take]; omega
      · -- unknown escape
        refine ⟨Nat.le_trans hsz1 (Nat.le_add_right _ _), hklen,
          by intro d hd; simp at hd; subst hd; exact DiagAt.ahead sz (mkDiag_highlights _ _ _) (by omega) hcl (by simp), ?_⟩
        by_cases htab : t = '\t'
        · subst htab
          have hk : k = 1 := by
            rcases hkspec with ⟨h, _⟩ | ⟨_, _, h⟩
            · exact h
            · exact absurd rfl h.2
          subst hk
          have hr' : r = '\t' := by
            rcases hrt with ⟨_, h⟩ | ⟨_, h⟩
            · exact h
            · exact absurd rfl h.2
          subst hr'
          rw [htake, advPos_append, advPos_clean _ _ hcl]
          simp only [advPos, List.foldl_cons, List.foldl_nil, advPos1, List.length_take,
            Nat.min_eq_left hszlen, beq_self_eq_true, ↓reduceIte]
          simp
          have := Nat.mod_lt (s.col + sz - 1) (by decide : 0 < 4)
          omega
        · have hb : (t == '\t') = false := by simp [htab]
          simp only [hb, Bool.false_eq_true, ↓reduceIte]
          exact cleank htab

theorem escape_head (s : LexSt) (sz : Nat) (t : Char) (k : Nat) : (escape s sz t k).1.head? = some '\\' := by
  unfold escape
  simp only
  repeat' split
  all_goals rfl

theorem ne_of_head {l : List Char} {a b : Char} (h : l.head? = some a) (hab : a ≠ b) :
    (l == [b]) = false := by
  cases l with
  | nil => rfl
  | cons x xs => simp at h; subst h; simp [hab]

/-- `escOf` either leaves the peeked character alone or is an escape sequence. -/
theorem escOf_spec (ue : Bool) (s : LexSt) (c : Char) (sz : Nat) (hp : peek1 s.rest 0 = some (c, sz)) :
    escOf ue s c sz = ([c], sz, [], 0) ∨
    (c = '\\' ∧ (escOf ue s c sz).1.head? = some '\\' ∧
      1 ≤ (escOf ue s c sz).2.1 ∧ (escOf ue s c sz).2.1 ≤ s.rest.length ∧
      (∀ d ∈ (escOf ue s c sz).2.2.1, DiagAt s d) ∧
      advPos (s.line, s.col) (s.rest.take (escOf ue s c sz).2.1)
        = (s.line, s.col + (escOf ue s c sz).2.2.2 + (escOf ue s c sz).2.1)) := by
  unfold escOf
  split
  · rename_i hc
    simp only [Bool.and_eq_true, beq_iff_eq] at hc
    obtain ⟨rfl, _⟩ := hc
    split
    · rename_i t k hq
      split
      · rename_i ht
        have ht' : t ≠ '\n' := by simpa using ht
        right
        obtain ⟨h1, h2, h3, h4⟩ := escape_spec s sz t k hp hq ht'
        exact ⟨rfl, escape_head s sz t k, h1, h2, h3, h4⟩
      · left; rfl
    · left; rfl
  · left; rfl

theorem finishPop_plain (us : Bool) (s : LexSt) (c : Char) (sz : Nat)
    (hp : peek1 s.rest 0 = some (c, sz)) :
    FollowsN sz s (finishPop us s ([c], sz, [], 0)).1 ∧ 1 ≤ sz ∧
    ∃ cs, (finishPop us s ([c], sz, [], 0)).2 = some cs := by
  obtain ⟨hsz1, hszlen, _⟩ := peek1_spec hp
  simp only [Nat.zero_add] at hszlen
  refine ⟨?_, hsz1, ?_⟩
  · unfold finishPop
    simp only [List.append_nil]
    by_cases hnl : c = '\n'
    · subst hnl
      obtain ⟨rfl, hhead⟩ := peek1_ws hp (Or.inl rfl)
      simp only [beq_self_eq_true, ↓reduceIte]
      have := follows_splice s 0 hszlen (by intro x hx; simp at hx) (by simpa using hhead)
      simpa using this
    · have h1 : ([c] == ['\n']) = false := by simp [hnl]
      simp only [h1, Bool.false_eq_true, ↓reduceIte]
      by_cases htab : c = '\t'
      · subst htab
        obtain ⟨rfl, hhead⟩ := peek1_ws hp (Or.inr rfl)
        simp only [beq_self_eq_true, ↓reduceIte]
        refine ⟨hszlen, by simp [advance], by simp [advance], ?_, [], by simp [advance], by simp⟩
        have : s.rest.take 1 = ['\t'] := by
          have := take_succ_of_head (n := 0) (by simpa using hhead)
          simpa using this
        rw [this]
        simp [advPos, advPos1, advance]
      · have h2 : ([c] == ['\t']) = false := by simp [htab]
        simp only [h2, Bool.false_eq_true, ↓reduceIte]
        have hcl := peek1_clean hp ⟨hnl, htab⟩
        have := follows_clean s sz hszlen hcl
        simpa using this
  · unfold finishPop
    simp only
    split
    · exact ⟨_, rfl⟩
    · split <;> exact ⟨_, rfl⟩

theorem popOne_spec (us ue : Bool) (s : LexSt) :
    (∀ cs, (popOne us ue s).2 = some cs → Progress s (popOne us ue s).1) ∧
    ((popOne us ue s).2 = none → Follows s (popOne us ue s).1 ∧ (popOne us ue s).1.rest = []) := by
  obtain ⟨i1, i2, i3⟩ := spliceLoop_spec (s.rest.length + 1) s
  unfold popOne
  cases hsl : spliceLoop (s.rest.length + 1) s with
  | mk s1 r =>
    rw [hsl] at i1 i2 i3
    simp only at i1 i2 i3
    cases r with
    | none =>
      simp only
      exact ⟨(by intro cs h; cases h), fun _ => ⟨i1, i3 (by omega) rfl⟩⟩
    | some p =>
      obtain ⟨c, sz⟩ := p
      simp only
      have hp := i2 c sz rfl
      refine ⟨?_, ?_⟩
      · intro cs _
        rcases escOf_spec ue s1 c sz hp with he | ⟨_, hhead, h1, h2, h3, h4⟩
        · rw [he]
          obtain ⟨hf, hsz, _⟩ := finishPop_plain us s1 c sz hp
          exact i1.trans_progress ⟨sz, hsz, hf⟩
        · -- escape sequence: never a lone newline / tab
          apply i1.trans_progress
          refine ⟨(escOf ue s1 c sz).2.1, h1, ?_⟩
          unfold finishPop
          have hne1 : ((escOf ue s1 c sz).1 == ['\n']) = false := ne_of_head hhead (by decide)
          have hne2 : ((escOf ue s1 c sz).1 == ['\t']) = false := ne_of_head hhead (by decide)
          simp only [hne1, hne2, Bool.false_eq_true, ↓reduceIte]
          refine ⟨h2, by simp [advance], by simp [advance], ?_, (escOf ue s1 c sz).2.2.1, by simp [advance], h3⟩
          simp only [advance]
          rw [h4]
      · intro h
        exfalso
        unfold finishPop at h
        simp only at h
        split at h
        · cases h
        · split at h <;> cases h

/-- `popOne` either fails at the very end of the input or makes progress. -/
theorem popOne_some_of_rest (us ue : Bool) (s : LexSt) :
    (popOne us ue s).2 = none → (popOne us ue s).1.rest = [] := fun h => ((popOne_spec us ue s).2 h).2

theorem popN_spec (n : Nat) (s : LexSt) :
    Follows s (popN n s).1 ∧ (∀ cs, (popN n s).2 = some cs → 0 < n → Progress s (popN n s).1) := by
  induction n generalizing s with
  | zero => exact ⟨Follows.refl s, by intro _ _ h; omega⟩
  | succ n ih =>
    unfold popN
    obtain ⟨p1, p2⟩ := popOne_spec false false s
    cases hpo : popOne false false s with
    | mk s1 r =>
      rw [hpo] at p1 p2
      simp only at p1 p2
      cases r with
      | none => exact ⟨(p2 rfl).1, by intro cs h; cases h⟩
      | some cs =>
        have hp := p1 cs rfl
        obtain ⟨q1, _⟩ := ih s1
        simp only
        cases hpn : popN n s1 with
        | mk s2 r2 =>
          rw [hpn] at q1
          cases r2 with
          | none => exact ⟨hp.follows.trans q1, by intro cs h; cases h⟩
          | some ds => exact ⟨hp.follows.trans q1, fun _ _ _ => hp.trans_follows q1⟩

end Norm
