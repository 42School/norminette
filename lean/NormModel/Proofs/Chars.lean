/- Character classes: how the character tables of the model and of the specification sit inside one another, what
the classes `\d`, `\w`, `[\da-fA-F]` are on ASCII, and the one sweep that separates the word characters from the
punctuation. Every other module gets its class facts from here by implication, not by a new sweep. -/
import NormModel.Model.Lexer
import NormModel.Spec.Literals
namespace Norm
open Spec

/-! ### the tables, one inside the other

The kernel evaluates `"…".toList` by decoding UTF-8, some thousand steps a character, and does so again in every
`decide` that mentions a table. `String.toList_ofList` gives the list of a literal without evaluation, so a table
is opened with `unfold T; rw [String.toList_ofList]` before anything is decided about it. -/

theorem wordChars_eq : wordChars = asciiLetters ++ asciiDigits ++ ['_'] := by
  unfold wordChars asciiLetters asciiDigits
  rw [String.toList_ofList, String.toList_ofList, String.toList_ofList]; rfl

theorem hexDigits_eq : hexDigits = asciiDigits ++ hexLetters := by
  unfold hexDigits asciiDigits hexLetters
  rw [String.toList_ofList, String.toList_ofList, String.toList_ofList]; rfl

theorem decDigits_eq : decDigits = asciiDigits := rfl

theorem asciiDigits_eq_oct : asciiDigits = octDigits ++ ['8', '9'] := by
  unfold asciiDigits octDigits
  rw [String.toList_ofList, String.toList_ofList]; rfl

theorem octDigits_eq_bin : octDigits = binDigits ++ ['2', '3', '4', '5', '6', '7'] := by
  unfold octDigits binDigits
  rw [String.toList_ofList, String.toList_ofList]; rfl

theorem asciiDigits_eq_nonzero : asciiDigits = '0' :: nonzeroDigits := by
  unfold asciiDigits nonzeroDigits
  rw [String.toList_ofList, String.toList_ofList]

theorem hexLetters_sub_letters : hexLetters ⊆ asciiLetters := by
  have : hexLetters.Sublist asciiLetters := by
    unfold hexLetters asciiLetters
    rw [String.toList_ofList, String.toList_ofList]; decide
  exact this.subset

theorem hexadecimalDigits_eq : Generated.hexadecimalDigits.toList = hexDigits := rfl

theorem mem_wordChars {c : Char} : c ∈ wordChars ↔ c ∈ asciiLetters ∨ c ∈ asciiDigits ∨ c = '_' := by
  simp only [wordChars_eq, List.mem_append, List.mem_singleton, or_assoc]

theorem mem_hexDigits {c : Char} : c ∈ hexDigits ↔ c ∈ decDigits ∨ c ∈ hexLetters := by
  simp only [hexDigits_eq, decDigits_eq, List.mem_append]

theorem dec_sub_hex {c : Char} (h : c ∈ decDigits) : c ∈ hexDigits := mem_hexDigits.mpr (.inl h)
theorem dec_sub_word {c : Char} (h : c ∈ decDigits) : c ∈ wordChars := mem_wordChars.mpr (.inr (.inl h))
theorem letters_sub_word {c : Char} (h : c ∈ asciiLetters) : c ∈ wordChars := mem_wordChars.mpr (.inl h)
theorem hex_sub_word {c : Char} (h : c ∈ hexDigits) : c ∈ wordChars :=
  (mem_hexDigits.mp h).elim dec_sub_word (fun h => letters_sub_word (hexLetters_sub_letters h))
theorem oct_sub_dec {c : Char} (h : c ∈ octDigits) : c ∈ decDigits := by
  rw [decDigits_eq, asciiDigits_eq_oct]; exact List.mem_append_left _ h
theorem bin_sub_oct {c : Char} (h : c ∈ binDigits) : c ∈ octDigits := by
  rw [octDigits_eq_bin]; exact List.mem_append_left _ h
theorem nonzero_sub_dec {c : Char} (h : c ∈ nonzeroDigits) : c ∈ decDigits := by
  rw [decDigits_eq, asciiDigits_eq_nonzero]; exact List.mem_cons_of_mem _ h

/-! ### the Boolean tests are membership in the tables -/

theorem isAsciiDigit_iff {c : Char} : isAsciiDigit c = true ↔ c ∈ decDigits := List.contains_iff_mem
theorem isAsciiLetter_iff {c : Char} : isAsciiLetter c = true ↔ c ∈ asciiLetters := List.contains_iff_mem
theorem isDec_iff {c : Char} : isDec c = true ↔ c ∈ decDigits := List.contains_iff_mem
theorem isOct_iff {c : Char} : isOct c = true ↔ c ∈ octDigits := List.contains_iff_mem
theorem isBin_iff {c : Char} : isBin c = true ↔ c ∈ binDigits := List.contains_iff_mem
theorem isHex_iff {c : Char} : isHex c = true ↔ c ∈ hexDigits := List.contains_iff_mem
theorem isOctal_iff {c : Char} : isOctal c = true ↔ c ∈ octDigits := List.contains_iff_mem
theorem isHexDigit_iff {c : Char} : isHexDigit c = true ↔ c ∈ hexDigits := List.contains_iff_mem

theorem isIdChar_iff {c : Char} : isIdChar c = true ↔ c ∈ wordChars := by
  simp only [isIdChar, Bool.or_eq_true, beq_iff_eq, isAsciiLetter_iff, isAsciiDigit_iff, mem_wordChars, decDigits_eq,
    or_assoc]

theorem isIdStart_iff {c : Char} : isIdStart c = true ↔ c ∈ asciiLetters ∨ c = '_' := by
  simp only [isIdStart, Bool.or_eq_true, beq_iff_eq, isAsciiLetter_iff]

/-! ### the one sweep -/

/-- every word character is ASCII, and a letter, a digit or the underscore by its code -/
theorem word_ascii : ∀ c ∈ wordChars, c.val < 128 ∧ (c.isAlphanum || c == '_') = true := by
  unfold wordChars; rw [String.toList_ofList]; decide

/-- an ASCII character that is no letter, digit or underscore: what every class below excludes. For a literal
`p`, `isPunct p = true` is closed by `decide` at no cost (no table is evaluated). -/
def isPunct (p : Char) : Bool := p.val < 128 && !(p.isAlphanum || p == '_')

theorem punct_ascii {p : Char} (hp : isPunct p = true) : p.val < 128 := by
  simp only [isPunct, Bool.and_eq_true, decide_eq_true_eq] at hp; exact hp.1

theorem not_word_of_punct {p : Char} (hp : isPunct p = true) : p ∉ wordChars := by
  intro h
  have := (word_ascii p h).2
  simp only [isPunct, Bool.and_eq_true, Bool.not_eq_true', this] at hp
  exact absurd hp.2 (by decide)

theorem ne_of_word {c p : Char} (h : c ∈ wordChars) (hp : isPunct p = true) : c ≠ p :=
  fun e => not_word_of_punct hp (e ▸ h)

/-! ### `\d`, `\w`, `[\da-fA-F]` -/

theorem isW_iff (u : Uni) {c : Char} (h : c.val < 128) : u.isW c = true ↔ c ∈ wordChars := by
  simp only [Uni.isW, h, ↓reduceIte, Bool.or_eq_true, beq_iff_eq, isAsciiLetter_iff, isAsciiDigit_iff, mem_wordChars,
    decDigits_eq]
  constructor
  · rintro ((h | h) | h)
    · exact .inr (.inl h)
    · exact .inl h
    · exact .inr (.inr h)
  · rintro (h | h | h)
    · exact .inl (.inr h)
    · exact .inl (.inl h)
    · exact .inr h

theorem isD_iff (u : Uni) {c : Char} (h : c.val < 128) : u.isD c = true ↔ c ∈ decDigits := by
  simp only [Uni.isD, h, ↓reduceIte, isAsciiDigit_iff]

theorem isW_of_word (u : Uni) {c : Char} (h : c ∈ wordChars) : u.isW c = true := (isW_iff u (word_ascii c h).1).mpr h
theorem isD_of_dec (u : Uni) {c : Char} (h : c ∈ decDigits) : u.isD c = true :=
  (isD_iff u (word_ascii c (dec_sub_word h)).1).mpr h

theorem isD_isW (u : Uni) {c : Char} (h : u.isD c = true) : u.isW c = true := by
  by_cases ha : c.val < 128
  · exact isW_of_word u (dec_sub_word ((isD_iff u ha).mp h))
  · simp only [Uni.isD, ha, ↓reduceIte] at h
    simp only [Uni.isW, ha, ↓reduceIte, h, Bool.or_true]

theorem isH_iff (u : Uni) {c : Char} (h : c.val < 128) : u.isH c = true ↔ c ∈ hexDigits := by
  simp only [Uni.isH, Bool.or_eq_true, isD_iff u h, List.contains_iff_mem, mem_hexDigits]

theorem isH_of_hex (u : Uni) {c : Char} (h : c ∈ hexDigits) : u.isH c = true :=
  (isH_iff u (word_ascii c (hex_sub_word h)).1).mpr h

theorem isH_isW (u : Uni) {c : Char} (h : u.isH c = true) : u.isW c = true := by
  simp only [Uni.isH, Bool.or_eq_true, List.contains_iff_mem] at h
  exact h.elim (isD_isW u) (fun h => isW_of_word u (letters_sub_word (hexLetters_sub_letters h)))

/-- a `\w` character is a word character of the table or lies outside ASCII -/
theorem isW_cases (u : Uni) {c : Char} (h : u.isW c = true) : c ∈ wordChars ∨ ¬ c.val < 128 :=
  (Classical.em (c.val < 128)).imp (fun ha => (isW_iff u ha).mp h) id

/-- `\w`, hence `\d` and `[\da-fA-F]`, never holds of punctuation -/
theorem ne_of_isW (u : Uni) {c p : Char} (h : u.isW c = true) (hp : isPunct p = true) : c ≠ p := by
  rcases isW_cases u h with hw | ha
  · exact ne_of_word hw hp
  · rintro rfl
    simp only [isPunct, Bool.and_eq_true, decide_eq_true_eq] at hp
    exact ha hp.1

theorem isD_punct (u : Uni) {p : Char} (hp : isPunct p = true) : u.isD p = false :=
  Bool.eq_false_iff.mpr (fun h => ne_of_isW u (isD_isW u h) hp rfl)
theorem isH_punct (u : Uni) {p : Char} (hp : isPunct p = true) : u.isH p = false :=
  Bool.eq_false_iff.mpr (fun h => ne_of_isW u (isH_isW u h) hp rfl)

/-! ### the letters of the grammar: base marks and exponent marks -/

theorem isXc_iff {c : Char} : isXc c = true ↔ c = 'x' ∨ c = 'X' := by simp only [isXc, Bool.or_eq_true, beq_iff_eq]
theorem isBc_iff {c : Char} : isBc c = true ↔ c = 'b' ∨ c = 'B' := by simp only [isBc, Bool.or_eq_true, beq_iff_eq]
theorem isE_iff {c : Char} : isE c = true ↔ c = 'e' ∨ c = 'E' := by simp only [isE, Bool.or_eq_true, beq_iff_eq]
theorem isP_iff {c : Char} : isP c = true ↔ c = 'p' ∨ c = 'P' := by simp only [isP, Bool.or_eq_true, beq_iff_eq]

theorem letters_not_dec : ∀ c ∈ asciiLetters, c ∉ decDigits := by
  unfold asciiLetters decDigits
  rw [String.toList_ofList, String.toList_ofList]; decide

/-- the eight marks are letters; `b`, `e` are hexadecimal digits, `x`, `p` are not -/
theorem marks_tbl : ∀ c ∈ ['x', 'X', 'p', 'P', 'b', 'B', 'e', 'E'],
    c ∈ asciiLetters ∧ (c ∈ hexLetters ↔ isBc c = true ∨ isE c = true) := by
  unfold asciiLetters hexLetters
  rw [String.toList_ofList, String.toList_ofList]; decide

theorem isXc_letter {c : Char} (h : isXc c = true) : c ∈ asciiLetters := by
  rcases isXc_iff.mp h with rfl | rfl <;> exact (marks_tbl _ (by decide)).1
theorem isP_letter {c : Char} (h : isP c = true) : c ∈ asciiLetters := by
  rcases isP_iff.mp h with rfl | rfl <;> exact (marks_tbl _ (by decide)).1
theorem isBc_hex {c : Char} (h : isBc c = true) : c ∈ hexLetters := by
  rcases isBc_iff.mp h with rfl | rfl <;> exact (marks_tbl _ (by decide)).2.mpr (by decide)
theorem isE_hex {c : Char} (h : isE c = true) : c ∈ hexLetters := by
  rcases isE_iff.mp h with rfl | rfl <;> exact (marks_tbl _ (by decide)).2.mpr (by decide)

theorem not_hex_of_letter {c : Char} (hl : c ∈ asciiLetters) (hx : c ∉ hexLetters) : c ∉ hexDigits :=
  fun h => (mem_hexDigits.mp h).elim (letters_not_dec c hl) hx
theorem isXc_not_hex {c : Char} (h : isXc c = true) : c ∉ hexDigits := by
  rcases isXc_iff.mp h with rfl | rfl <;>
    exact not_hex_of_letter (marks_tbl _ (by decide)).1 (fun hx => absurd ((marks_tbl _ (by decide)).2.mp hx) (by decide))
theorem isP_not_hex {c : Char} (h : isP c = true) : c ∉ hexDigits := by
  rcases isP_iff.mp h with rfl | rfl <;>
    exact not_hex_of_letter (marks_tbl _ (by decide)).1 (fun hx => absurd ((marks_tbl _ (by decide)).2.mp hx) (by decide))

theorem dec_isDigit : ∀ c ∈ decDigits, c.isDigit = true := by
  unfold decDigits; rw [String.toList_ofList]; decide

/-- `\d` on an ASCII literal that is no digit (`by decide` closes both hypotheses without touching a table) -/
theorem isD_of_not_isDigit (u : Uni) {p : Char} (ha : p.val < 128) (h : p.isDigit = false) : u.isD p = false :=
  Bool.eq_false_iff.mpr (fun hd => by rw [dec_isDigit p ((isD_iff u ha).mp hd)] at h; cases h)

theorem isD_letter (u : Uni) {c : Char} (h : c ∈ asciiLetters) : u.isD c = false :=
  Bool.eq_false_iff.mpr (fun hd => letters_not_dec c h ((isD_iff u (word_ascii c (letters_sub_word h)).1).mp hd))
theorem isH_not_hex (u : Uni) {c : Char} (hw : c ∈ wordChars) (h : c ∉ hexDigits) : u.isH c = false :=
  Bool.eq_false_iff.mpr (fun hh => h ((isH_iff u (word_ascii c hw).1).mp hh))

theorem isXc_not_isH (u : Uni) {c : Char} (h : isXc c = true) : u.isH c = false :=
  isH_not_hex u (letters_sub_word (isXc_letter h)) (isXc_not_hex h)
theorem isP_not_isH (u : Uni) {c : Char} (h : isP c = true) : u.isH c = false :=
  isH_not_hex u (letters_sub_word (isP_letter h)) (isP_not_hex h)

theorem nonzero_ne_zero : ∀ c ∈ nonzeroDigits, c ≠ '0' := by
  unfold nonzeroDigits; rw [String.toList_ofList]; decide

theorem zero_dec : '0' ∈ decDigits := by rw [decDigits_eq, asciiDigits_eq_nonzero]; exact List.mem_cons_self

end Norm
