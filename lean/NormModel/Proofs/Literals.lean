/- C11: the integer matcher on every well-formed integer constant. -/
import NormModel.Proofs.Chars
namespace Norm
open Spec

/-! ### what the matcher needs to know of each class, bundled -/

theorem dec_facts (u : Uni) {c : Char} (hc : c ∈ decDigits) :
    u.isD c = true ∧ u.isH c = true ∧ u.isW c = true ∧ isXc c = false ∧ isBc c = false ∧ c ≠ '.' :=
  ⟨isD_of_dec u hc, isH_of_hex u (dec_sub_hex hc), isW_of_word u (dec_sub_word hc),
    Bool.eq_false_iff.mpr (fun h => isXc_not_hex h (dec_sub_hex hc)),
    Bool.eq_false_iff.mpr (fun h => letters_not_dec c (hexLetters_sub_letters (isBc_hex h)) hc),
    ne_of_word (dec_sub_word hc) (by decide)⟩

theorem hex_facts (u : Uni) {c : Char} (hc : c ∈ hexDigits) :
    u.isH c = true ∧ u.isW c = true ∧ isXc c = false ∧ "0123456789abcdefABCDEF".toList.contains c = true :=
  ⟨isH_of_hex u hc, isW_of_word u (hex_sub_word hc), Bool.eq_false_iff.mpr (fun h => isXc_not_hex h hc),
    List.contains_iff_mem.mpr hc⟩

/-- a character that is ASCII and not a word character is in none of the classes -/
theorem nonword_facts (u : Uni) {c : Char} (ha : c.val < 128) (hw : c ∉ wordChars) :
    u.isW c = false ∧ u.isD c = false ∧ u.isH c = false ∧ isXc c = false ∧ isBc c = false :=
  ⟨Bool.eq_false_iff.mpr (fun h => hw ((isW_iff u ha).mp h)),
    Bool.eq_false_iff.mpr (fun h => hw (dec_sub_word ((isD_iff u ha).mp h))),
    Bool.eq_false_iff.mpr (fun h => hw (hex_sub_word ((isH_iff u ha).mp h))),
    Bool.eq_false_iff.mpr (fun h => hw (letters_sub_word (isXc_letter h))),
    Bool.eq_false_iff.mpr (fun h => hw (letters_sub_word (hexLetters_sub_letters (isBc_hex h))))⟩

/-! ### span lemmas -/

theorem takeWhile_app {p : Char → Bool} {s rest : List Char} (hs : ∀ c ∈ s, p c = true)
    (hr : ∀ c, rest.head? = some c → p c = false) : (s ++ rest).takeWhile p = s := by
  rw [List.takeWhile_append_of_pos hs]
  cases rest with
  | nil => simp
  | cons c tl => simp [List.takeWhile_cons, hr c rfl]

theorem dropWhile_app {p : Char → Bool} {s rest : List Char} (hs : ∀ c ∈ s, p c = true)
    (hr : ∀ c, rest.head? = some c → p c = false) : (s ++ rest).dropWhile p = rest := by
  rw [List.dropWhile_append_of_pos hs]
  cases rest with
  | nil => simp
  | cons c tl => simp [List.dropWhile_cons, hr c rfl]

/-- what `boundaryOK` gives about the first character of the continuation -/
theorem boundary_head (u : Uni) {rest : List Char} (hb : boundaryOK rest) :
    ∀ c, rest.head? = some c →
      u.isW c = false ∧ u.isD c = false ∧ u.isH c = false ∧ isXc c = false ∧ isBc c = false ∧
      c ≠ '.' ∧ c ≠ '+' ∧ c ≠ '-' := by
  intro c hc
  cases rest with
  | nil => cases hc
  | cons d tl =>
    simp at hc; subst hc
    obtain ⟨h1, h2, h3, h4, h5⟩ := hb
    obtain ⟨a, b, c', d', e⟩ := nonword_facts u h1 h2
    exact ⟨a, b, c', d', e, h3, h4, h5⟩

/-- the tool's table of integer suffixes is the specification's, in another order -/
theorem integerSuffixes_perm : Generated.integerSuffixes.Perm Spec.integerSuffixes := by decide +kernel

theorem suffix_mem_iff (s : String) : Generated.integerSuffixes.contains s = true ↔ s ∈ Spec.integerSuffixes := by
  rw [List.contains_iff_mem]; exact integerSuffixes_perm.mem_iff

/-- the `Suffix` group picks up exactly a well-formed suffix -/
theorem intSuffix_eq (u : Uni) (last : Option Char) {s rest : List Char}
    (hs : ∀ c ∈ s, c ∈ wordChars) (hb : boundaryOK rest) : intSuffix u last (s ++ rest) = s := by
  have hbh := boundary_head u hb
  unfold intSuffix
  split
  · apply takeWhile_app
    · intro c hc; simp [isW_of_word u (hs c hc)]
    · intro c hc
      obtain ⟨h1, _, _, _, _, h6, h7, h8⟩ := hbh c hc
      simp [h1, h6, h7, h8]
  · cases s with
    | nil =>
      simp only [List.nil_append]
      cases rest with
      | nil => rfl
      | cons c tl => simp [(hbh c rfl).1]
    | cons c tl =>
      simp only [List.cons_append, isW_of_word u (hs c (by simp)), ↓reduceIte, List.cons.injEq, true_and]
      apply takeWhile_app
      · intro d hd; simp [isW_of_word u (hs d (by simp [hd]))]
      · intro d hd
        obtain ⟨h1, _, _, _, _, h6, _⟩ := hbh d hd
        simp [h1, h6]

theorem suffixHeadBad_eq : suffixHeadBad = hexDigits ++ ['x', 'X', 'b', 'B', 'e', 'E', 'p', 'P'] := by
  unfold suffixHeadBad hexDigits
  rw [String.toList_ofList, String.toList_ofList]; rfl

/-- a word character outside `suffixHeadBad`: no digit of any base, no base mark, no exponent mark -/
theorem shape_head {c : Char} (hw : c ∈ wordChars) (hb : suffixHeadBad.contains c = false) :
    c ∉ hexDigits ∧ c ∉ decDigits ∧ isXc c = false ∧ isBc c = false ∧ c ≠ '.' ∧ c ≠ '+' ∧ c ≠ '-' ∧
    isE c = false ∧ isP c = false := by
  have hn : c ∉ hexDigits ∧ ¬ (c = 'x' ∨ c = 'X' ∨ c = 'b' ∨ c = 'B' ∨ c = 'e' ∨ c = 'E' ∨ c = 'p' ∨ c = 'P') := by
    simpa [suffixHeadBad_eq, List.contains_iff_mem] using hb
  refine ⟨hn.1, fun h => hn.1 (dec_sub_hex h), ?_, ?_, ne_of_word hw (by decide), ne_of_word hw (by decide),
    ne_of_word hw (by decide), ?_, ?_⟩ <;> rw [Bool.eq_false_iff] <;> intro h <;> apply hn.2
  · rcases isXc_iff.mp h with h | h <;> simp [h]
  · rcases isBc_iff.mp h with h | h <;> simp [h]
  · rcases isE_iff.mp h with h | h <;> simp [h]
  · rcases isP_iff.mp h with h | h <;> simp [h]

/-- what `suffixShape` says -/
theorem suffixShape_facts {s : List Char} (h : suffixShape s = true) :
    (∀ c ∈ s, c ∈ wordChars) ∧
    (∀ c, s.head? = some c →
      c ∉ hexDigits ∧ c ∉ decDigits ∧ isXc c = false ∧ isBc c = false ∧ c ≠ '.' ∧ c ≠ '+' ∧ c ≠ '-' ∧
      isE c = false ∧ isP c = false) := by
  unfold suffixShape at h
  simp only [Bool.and_eq_true, List.all_eq_true] at h
  obtain ⟨h1, h2⟩ := h
  have hw : ∀ c ∈ s, c ∈ wordChars := fun c hc => by simpa using h1 c hc
  refine ⟨hw, ?_⟩
  intro c hc
  cases s with
  | nil => cases hc
  | cons d tl =>
    simp at hc; subst hc
    simp only [Bool.not_eq_true'] at h2
    exact shape_head (hw d (by simp)) h2

theorem suffix_shape_tbl : ∀ s ∈ Spec.integerSuffixes, suffixShape s.toList = true := by
  unfold suffixShape wordChars suffixHeadBad
  rw [String.toList_ofList, String.toList_ofList]
  decide +kernel

theorem Spec.IntConst.WF.shape {k : IntConst} (h : k.WF) : k.Shape := by
  obtain ⟨hs, hb⟩ := h
  refine ⟨suffix_shape_tbl _ hs, ?_⟩
  cases hbse : k.base with
  | dec => rw [hbse] at hb; exact hb
  | oct =>
    rw [hbse] at hb; simp only at hb ⊢
    intro c hc
    exact isDec_iff.mpr (oct_sub_dec (isOct_iff.mp (hb c hc)))
  | hex x => rw [hbse] at hb; exact hb
  | bin b =>
    rw [hbse] at hb; simp only at hb ⊢
    refine ⟨hb.1, hb.2.1, ?_⟩
    intro c hc
    exact isDec_iff.mpr (oct_sub_dec (bin_sub_oct (isBin_iff.mp (hb.2.2 c hc))))

/-- the first character after the digits of a constant (suffix or continuation) -/
theorem after_head (u : Uni) {sfx : List Char} (hs : suffixShape sfx = true) {rest : List Char}
    (hb : boundaryOK rest) : ∀ c, (sfx ++ rest).head? = some c →
      u.isD c = false ∧ u.isH c = false ∧ isXc c = false ∧ isBc c = false := by
  intro c hc
  obtain ⟨hw, hh⟩ := suffixShape_facts hs
  cases hl : sfx with
  | nil =>
    rw [hl] at hc
    obtain ⟨_, b, c', d, e, _⟩ := boundary_head u hb c (by simpa using hc)
    exact ⟨b, c', d, e⟩
  | cons d tl =>
    rw [hl] at hc
    simp at hc; subst hc
    obtain ⟨h1, h2, h3, h4, _⟩ := hh d (by rw [hl]; rfl)
    have hwd := (word_ascii d (hw d (by rw [hl]; simp))).1
    exact ⟨Bool.eq_false_iff.mpr (fun h => h2 ((isD_iff u hwd).mp h)),
      Bool.eq_false_iff.mpr (fun h => h1 ((isH_iff u hwd).mp h)), h3, h4⟩

theorem badDigits_nil (line col : Nat) (m : IntMatch) (name : String) (bucket : List Char)
    (h : ∀ c ∈ m.const, bucket.contains c = true) : badDigits line col m name bucket = [] := by
  unfold badDigits
  have : (m.const.zipIdx m.pre.length).filterMap (fun (x : Char × Nat) =>
      if bucket.contains x.1 then none else some (⟨line, col + x.2, some 1, none⟩ : Highlight)) = [] := by
    rw [List.filterMap_eq_nil_iff]
    intro x hx
    have : x.1 ∈ m.const := by
      have := List.mem_zipIdx hx
      -- membership of the first component
      obtain ⟨i, hi⟩ := List.mem_iff_getElem.mp hx
      obtain ⟨hlt, hget⟩ := hi
      simp at hget
      rw [← hget]
      simp
    have hb := h x.1 this
    simp at hb
    simp [hb]
  simp only at this ⊢
  rw [this]; rfl

/-- result of closing a match: the suffix group is exactly the suffix-shaped text -/
theorem intFin_valid (u : Uni) (pre const : List Char) (hc : const ≠ []) {sfx : List Char}
    (hw : ∀ c ∈ sfx, c ∈ wordChars) {rest : List Char} (hb : boundaryOK rest) :
    intFin u pre const (sfx ++ rest) = some ⟨pre, const, sfx⟩ := by
  unfold intFin
  have : const.isEmpty = false := by cases const <;> simp_all
  simp only [this, Bool.false_eq_true, ↓reduceIte]
  rw [intSuffix_eq u _ hw hb]

theorem suffix_diag_nil {sfx : String} (hs : sfx ∈ Spec.integerSuffixes) :
    Generated.integerSuffixes.contains (String.ofList sfx.toList) = true := by
  rw [String.ofList_toList]; exact (suffix_mem_iff sfx).mpr hs

/-- the `Prefix` and `Constant` groups of the match of a constant of the given shape -/
def Spec.IntConst.mpre (k : IntConst) : List Char :=
  match k.base with
  | .dec => []
  | .oct => if k.digits = [] then [] else ['0']
  | .hex x => ['0', x]
  | .bin b => ['0', b]
def Spec.IntConst.mconst (k : IntConst) : List Char :=
  match k.base with
  | .oct => if k.digits = [] then ['0'] else k.digits
  | _ => k.digits

/-- **Every integer constant of the given shape — well-formed or not — is matched whole**: the groups of the
match are the prefix, the digits and the suffix-shaped text, whatever follows it (within `boundaryOK`). Unbounded
digit strings, all four bases, every suffix shape. -/
theorem matchInt_shape (u : Uni) (k : IntConst) (hk : k.Shape) (rest : List Char) (hb : boundaryOK rest) :
    matchInt u (k.render ++ rest) = some ⟨k.mpre, k.mconst, k.suffix.toList⟩ ∧
      k.mpre ++ k.mconst ++ k.suffix.toList = k.render := by
  obtain ⟨hs, hbase⟩ := hk
  have hah := after_head u hs hb
  have hw := (suffixShape_facts hs).1
  unfold IntConst.mpre IntConst.mconst
  unfold IntConst.render IntConst.body
  cases hbse : k.base with
  | dec =>
    rw [hbse] at hbase
    simp only at hbase ⊢
    obtain ⟨d, ds, hd, hnz, hds⟩ := hbase
    have hall : ∀ c ∈ k.digits, c ∈ decDigits := by
      rw [hd]; intro c hc
      rcases List.mem_cons.mp hc with rfl | hc
      · exact nonzero_sub_dec hnz
      · have := hds c hc; unfold isDec at this; simpa using this
    have hd0 : d ≠ '0' := nonzero_ne_zero d hnz
    have htw : (k.digits ++ (k.suffix.toList ++ rest)).takeWhile u.isD = k.digits :=
      takeWhile_app (fun c hc => (dec_facts u (hall c hc)).1) (fun c hc => (hah c hc).1)
    have hdw : (k.digits ++ (k.suffix.toList ++ rest)).dropWhile u.isD = k.suffix.toList ++ rest :=
      dropWhile_app (fun c hc => (dec_facts u (hall c hc)).1) (fun c hc => (hah c hc).1)
    have hne : k.digits ≠ [] := by rw [hd]; simp
    refine ⟨?_, by simp⟩
    rw [List.append_assoc]
    unfold matchInt
    rw [hd] at htw hdw ⊢
    simp only [List.cons_append] at htw hdw ⊢
    rw [htw, hdw, ← hd]
    exact intFin_valid u [] k.digits hne hw hb
  | oct =>
    rw [hbse] at hbase
    simp only at hbase ⊢
    have hall : ∀ c ∈ k.digits, c ∈ decDigits := fun c hc => by have := hbase c hc; unfold isDec at this; simpa using this
    -- what follows the leading `0`
    have htl_head : ∀ c, (k.digits ++ (k.suffix.toList ++ rest)).head? = some c → isXc c = false ∧ isBc c = false := by
      intro c hc
      cases hdg : k.digits with
      | nil => rw [hdg] at hc; obtain ⟨_, _, a, b⟩ := hah c (by simpa using hc); exact ⟨a, b⟩
      | cons e es =>
        rw [hdg] at hc
        simp only [List.cons_append, List.head?_cons, Option.some.injEq] at hc
        rw [← hc]
        obtain ⟨_, _, _, a, b, _⟩ := dec_facts u (hall e (by rw [hdg]; simp))
        exact ⟨a, b⟩
    have hX : intAltX u (k.digits ++ (k.suffix.toList ++ rest)) = none := by
      unfold intAltX
      have : (k.digits ++ (k.suffix.toList ++ rest)).takeWhile isXc = [] := by
        cases hl : k.digits ++ (k.suffix.toList ++ rest) with
        | nil => rfl
        | cons c tl => simp [List.takeWhile_cons, (htl_head c (by rw [hl]; rfl)).1]
      rw [this]
    have hB : intAltB u (k.digits ++ (k.suffix.toList ++ rest)) = none := by
      unfold intAltB
      have : (k.digits ++ (k.suffix.toList ++ rest)).takeWhile isBc = [] := by
        cases hl : k.digits ++ (k.suffix.toList ++ rest) with
        | nil => rfl
        | cons c tl => simp [List.takeWhile_cons, (htl_head c (by rw [hl]; rfl)).2]
      rw [this]
    have htw : (k.digits ++ (k.suffix.toList ++ rest)).takeWhile u.isD = k.digits :=
      takeWhile_app (fun c hc => (dec_facts u (hall c hc)).1) (fun c hc => (hah c hc).1)
    have hdw : (k.digits ++ (k.suffix.toList ++ rest)).dropWhile u.isD = k.suffix.toList ++ rest :=
      dropWhile_app (fun c hc => (dec_facts u (hall c hc)).1) (fun c hc => (hah c hc).1)
    have h0 : u.isD '0' = true := isD_of_dec u zero_dec
    by_cases hne : k.digits = []
    · -- the constant `0`
      rw [if_pos hne, if_pos hne]
      refine ⟨?_, by simp [hne]⟩
      · unfold matchInt
        simp only [List.cons_append, List.append_assoc, hX, hB]
        rw [htw, hdw, hne]
        simp only [intFin, List.isEmpty_nil, ↓reduceIte, List.nil_append]
        have htw0 : ('0' :: (k.suffix.toList ++ rest)).takeWhile u.isD = ['0'] := by
          have := takeWhile_app (p := u.isD) (s := ['0']) (rest := k.suffix.toList ++ rest)
            (by intro c hc; simp at hc; subst hc; exact h0) (fun c hc => (hah c hc).1)
          simpa using this
        have hdw0 : ('0' :: (k.suffix.toList ++ rest)).dropWhile u.isD = k.suffix.toList ++ rest := by
          have := dropWhile_app (p := u.isD) (s := ['0']) (rest := k.suffix.toList ++ rest)
            (by intro c hc; simp at hc; subst hc; exact h0) (fun c hc => (hah c hc).1)
          simpa using this
        rw [htw0, hdw0]
        have := intFin_valid u [] ['0'] (by simp) hw hb
        simpa [intFin] using this
    · rw [if_neg hne, if_neg hne]
      refine ⟨?_, by simp⟩
      · unfold matchInt
        simp only [List.cons_append, List.append_assoc, hX, hB]
        rw [htw, hdw, intFin_valid u ['0'] k.digits hne hw hb]
  | hex x =>
    rw [hbse] at hbase
    simp only at hbase ⊢
    obtain ⟨hx, hne, hhex⟩ := hbase
    have hall : ∀ c ∈ k.digits, c ∈ hexDigits := fun c hc => by have := hhex c hc; unfold isHex at this; simpa using this
    have hxX : isXc x = true := by rcases hx with rfl | rfl <;> decide
    have htwx : (x :: (k.digits ++ (k.suffix.toList ++ rest))).takeWhile isXc = [x] := by
      have := takeWhile_app (p := isXc) (s := [x]) (rest := k.digits ++ (k.suffix.toList ++ rest))
        (by intro c hc; simp at hc; subst hc; exact hxX)
        (by
          intro c hc
          cases hdg : k.digits with
          | nil => exact absurd hdg hne
          | cons e es =>
            rw [hdg] at hc
            simp only [List.cons_append, List.head?_cons, Option.some.injEq] at hc
            rw [← hc]; exact (hex_facts u (hall e (by rw [hdg]; simp))).2.2.1)
      simpa using this
    have hdwx : (x :: (k.digits ++ (k.suffix.toList ++ rest))).dropWhile isXc = k.digits ++ (k.suffix.toList ++ rest) := by
      have := dropWhile_app (p := isXc) (s := [x]) (rest := k.digits ++ (k.suffix.toList ++ rest))
        (by intro c hc; simp at hc; subst hc; exact hxX)
        (by
          intro c hc
          cases hdg : k.digits with
          | nil => exact absurd hdg hne
          | cons e es =>
            rw [hdg] at hc
            simp only [List.cons_append, List.head?_cons, Option.some.injEq] at hc
            rw [← hc]; exact (hex_facts u (hall e (by rw [hdg]; simp))).2.2.1)
      simpa using this
    have htw : (k.digits ++ (k.suffix.toList ++ rest)).takeWhile u.isH = k.digits :=
      takeWhile_app (fun c hc => (hex_facts u (hall c hc)).1) (fun c hc => (hah c hc).2.1)
    have hdw : (k.digits ++ (k.suffix.toList ++ rest)).dropWhile u.isH = k.suffix.toList ++ rest :=
      dropWhile_app (fun c hc => (hex_facts u (hall c hc)).1) (fun c hc => (hah c hc).2.1)
    refine ⟨?_, by simp⟩
    · unfold matchInt
      simp only [List.cons_append, List.append_assoc]
      unfold intAltX
      simp only [htwx, hdwx, htw, hdw, intFin_valid u ['0', x] k.digits hne hw hb]
  | bin b =>
    rw [hbse] at hbase
    simp only at hbase ⊢
    obtain ⟨hbb, hne, hbin⟩ := hbase
    have hall : ∀ c ∈ k.digits, c ∈ decDigits := fun c hc => by have := hbin c hc; unfold isDec at this; simpa using this
    have hbX : isXc b = false := by rcases hbb with rfl | rfl <;> decide
    have hbB : isBc b = true := by rcases hbb with rfl | rfl <;> decide
    have hX : intAltX u (b :: (k.digits ++ (k.suffix.toList ++ rest))) = none := by
      unfold intAltX; simp [List.takeWhile_cons, hbX]
    have hdig_head : ∀ c, (k.digits ++ (k.suffix.toList ++ rest)).head? = some c → isBc c = false := by
      intro c hc
      cases hdg : k.digits with
      | nil => exact absurd hdg hne
      | cons e es =>
        rw [hdg] at hc
        simp only [List.cons_append, List.head?_cons, Option.some.injEq] at hc
        rw [← hc]; exact (dec_facts u (hall e (by rw [hdg]; simp))).2.2.2.2.1
    have htwb : (b :: (k.digits ++ (k.suffix.toList ++ rest))).takeWhile isBc = [b] := by
      have := takeWhile_app (p := isBc) (s := [b]) (rest := k.digits ++ (k.suffix.toList ++ rest))
        (by intro c hc; simp at hc; subst hc; exact hbB) hdig_head
      simpa using this
    have hdwb : (b :: (k.digits ++ (k.suffix.toList ++ rest))).dropWhile isBc = k.digits ++ (k.suffix.toList ++ rest) := by
      have := dropWhile_app (p := isBc) (s := [b]) (rest := k.digits ++ (k.suffix.toList ++ rest))
        (by intro c hc; simp at hc; subst hc; exact hbB) hdig_head
      simpa using this
    have htw : (k.digits ++ (k.suffix.toList ++ rest)).takeWhile u.isD = k.digits :=
      takeWhile_app (fun c hc => (dec_facts u (hall c hc)).1) (fun c hc => (hah c hc).1)
    have hdw : (k.digits ++ (k.suffix.toList ++ rest)).dropWhile u.isD = k.suffix.toList ++ rest :=
      dropWhile_app (fun c hc => (dec_facts u (hall c hc)).1) (fun c hc => (hah c hc).1)
    refine ⟨?_, by simp⟩
    · unfold matchInt
      simp only [List.cons_append, List.append_assoc, hX]
      unfold intAltB
      simp only [htwb, hdwb, htw, hdw, intFin_valid u ['0', b] k.digits hne hw hb]

end Norm
