/- Helper lemmas for C08/C04: the order of diagnostics. -/
import NormModel.Model.Reports
import NormModel.Proofs.Sort
namespace Norm

/-- displayed position of a diagnostic that has a highlight -/
def Diag.pos? (d : Diag) : Option (Nat × Nat) := d.highlights.head?.map (fun h => (h.line, h.col))

/-- lexicographic `≤` on (line, col) -/
def posLe (a b : Nat × Nat) : Prop := a.1 < b.1 ∨ (a.1 = b.1 ∧ a.2 ≤ b.2)

instance (a b : Nat × Nat) : Decidable (posLe a b) := by unfold posLe; infer_instance

/-- the order the comparator implements on diagnostics that have a highlight -/
def keyLe (pa : Nat × Nat) (na : String) (pb : Nat × Nat) (nb : String) : Prop :=
  (pa.1 < pb.1 ∨ (pa.1 = pb.1 ∧ pa.2 < pb.2)) ∨ (pa = pb ∧ na ≤ nb)

theorem Diag.le_iff_key {a b : Diag} {ha hb : Highlight} {ra rb : List Highlight}
    (h1 : a.highlights = ha :: ra) (h2 : b.highlights = hb :: rb) :
    Diag.le a b = true ↔ keyLe (ha.line, ha.col) a.name (hb.line, hb.col) b.name := by
  unfold Diag.le Diag.lt keyLe posLt
  rw [h1, h2]
  simp only [Bool.not_eq_true']
  by_cases hc : hb.col = ha.col
  · by_cases hl : hb.line = ha.line
    · simp [hc, hl]
    · simp [hc, hl]; omega
  · by_cases hl : hb.line = ha.line
    · simp [hc, hl]
      constructor
      · intro h; left; omega
      · rintro (h | h)
        · omega
        · exact absurd h.1.symm hc
    · simp [hc, hl]
      constructor
      · intro h; left; omega
      · rintro (h | h)
        · omega
        · omega

theorem keyLe_total (pa : Nat × Nat) (na : String) (pb : Nat × Nat) (nb : String) :
    keyLe pa na pb nb ∨ keyLe pb nb pa na := by
  unfold keyLe
  rcases Nat.lt_trichotomy pa.1 pb.1 with h | h | h
  · left; left; left; exact h
  · rcases Nat.lt_trichotomy pa.2 pb.2 with h2 | h2 | h2
    · left; left; right; exact ⟨h, h2⟩
    · have : pa = pb := Prod.ext h h2
      rcases String.le_total na nb with h3 | h3
      · left; right; exact ⟨this, h3⟩
      · right; right; exact ⟨this.symm, h3⟩
    · right; left; right; exact ⟨h.symm, h2⟩
  · right; left; left; exact h

theorem keyLe_trans {pa pb pc : Nat × Nat} {na nb nc : String}
    (h1 : keyLe pa na pb nb) (h2 : keyLe pb nb pc nc) : keyLe pa na pc nc := by
  unfold keyLe at *
  rcases h1 with h1 | ⟨rfl, h1⟩
  · rcases h2 with h2 | ⟨rfl, _⟩
    · left; omega
    · left; exact h1
  · rcases h2 with h2 | ⟨rfl, h2⟩
    · left; exact h2
    · right; exact ⟨rfl, String.le_trans h1 h2⟩

theorem keyLe_posLe {pa pb : Nat × Nat} {na nb : String} (h : keyLe pa na pb nb) : posLe pa pb := by
  unfold keyLe at h; unfold posLe
  rcases h with h | ⟨rfl, _⟩
  · omega
  · right; exact ⟨rfl, Nat.le_refl _⟩

def HasHl (d : Diag) : Prop := d.highlights ≠ []

instance (d : Diag) : Decidable (HasHl d) := by unfold HasHl; infer_instance

theorem Diag.le_total {a b : Diag} (ha : HasHl a) (hb : HasHl b) :
    Diag.le a b = true ∨ Diag.le b a = true := by
  obtain ⟨x, xs, h1⟩ := List.exists_cons_of_ne_nil ha
  obtain ⟨y, ys, h2⟩ := List.exists_cons_of_ne_nil hb
  rw [Diag.le_iff_key h1 h2, Diag.le_iff_key h2 h1]
  exact keyLe_total _ _ _ _

theorem Diag.le_trans {a b c : Diag} (ha : HasHl a) (hb : HasHl b) (hc : HasHl c)
    (h1 : Diag.le a b = true) (h2 : Diag.le b c = true) : Diag.le a c = true := by
  obtain ⟨x, xs, e1⟩ := List.exists_cons_of_ne_nil ha
  obtain ⟨y, ys, e2⟩ := List.exists_cons_of_ne_nil hb
  obtain ⟨z, zs, e3⟩ := List.exists_cons_of_ne_nil hc
  rw [Diag.le_iff_key e1 e2] at h1
  rw [Diag.le_iff_key e2 e3] at h2
  rw [Diag.le_iff_key e1 e3]
  exact keyLe_trans h1 h2

theorem Diag.le_posLe {a b : Diag} {pa pb : Nat × Nat} (h : Diag.le a b = true)
    (ha : a.pos? = some pa) (hb : b.pos? = some pb) : posLe pa pb := by
  unfold Diag.pos? at ha hb
  match e1 : a.highlights, e2 : b.highlights with
  | [], _ => simp [e1] at ha
  | _ :: _, [] => simp [e2] at hb
  | x :: xs, y :: ys =>
    rw [Diag.le_iff_key e1 e2] at h
    simp [e1] at ha; simp [e2] at hb
    subst ha; subst hb
    exact keyLe_posLe h

theorem allSome_eq_some {α} {l : List (Option α)} {r : List α} :
    allSome l = some r ↔ l = r.map some := by
  induction l generalizing r with
  | nil => cases r <;> simp [allSome]
  | cons x xs ih =>
    cases x with
    | none => cases r <;> simp [allSome]
    | some a =>
      cases r with
      | nil => simp [allSome]
      | cons b bs =>
        simp only [allSome, Option.map_eq_some_iff, List.map_cons, List.cons.injEq, Option.some.injEq]
        constructor
        · rintro ⟨r', h1, h2, h3⟩; subst h2; subst h3; exact ⟨rfl, ih.mp h1⟩
        · rintro ⟨h1, h2⟩; exact ⟨bs, ih.mpr h2, h1, rfl⟩

theorem allSome_isSome_of {α} {l : List (Option α)} (h : ∀ x ∈ l, x.isSome) :
    ∃ r, allSome l = some r := by
  induction l with
  | nil => exact ⟨[], rfl⟩
  | cons x xs ih =>
    obtain ⟨r, hr⟩ := ih (fun y hy => h y (by simp [hy]))
    have hx := h x (by simp)
    cases x with
    | none => simp at hx
    | some a => exact ⟨a :: r, by simp [allSome, hr]⟩

/-- the list a formatter iterates is sorted by the comparator, when every diagnostic has a highlight -/
theorem sortDiags_sorted (ds : List Diag) (h : ∀ d ∈ ds, HasHl d) :
    (sortDiags ds).Pairwise (fun a b => Diag.le a b = true) :=
  sortBy_sorted Diag.le HasHl (fun _ _ ha hb => Diag.le_total ha hb) (fun _ _ _ ha hb hc => Diag.le_trans ha hb hc) ds h

theorem status_eq_ok_iff (ds : List Diag) : status ds = .ok ↔ ∀ d ∈ ds, d.level = .notice := by
  unfold status
  split
  · rename_i h
    exact iff_of_true rfl fun d hd => by simpa using List.all_eq_true.mp h d hd
  · rename_i h
    exact iff_of_false (fun h' => by cases h') fun h' => h (List.all_eq_true.mpr fun d hd => by simp [h' d hd])

theorem shownDiag?_isSome {d : Diag} (h : HasHl d) : (shownDiag? d).isSome := by
  unfold HasHl at h; unfold shownDiag?
  cases e : d.highlights with
  | nil => exact absurd e h
  | cons x xs => simp

end Norm
