/- Decimal floating constants: the float parser on well-formed constants. -/
import NormModel.Proofs.Ident
namespace Norm
open Spec

theorem dec_not_isE {c : Char} (h : c ∈ decDigits) : isE c = false :=
  Bool.eq_false_iff.mpr (fun he => letters_not_dec c (hexLetters_sub_letters (isE_hex he)) h)
theorem isE_not_isD (u : Uni) {c : Char} (h : isE c = true) : u.isD c = false :=
  isD_letter u (hexLetters_sub_letters (isE_hex h))
theorem dec_not_sign {c : Char} (h : c ∈ decDigits) : (c == '+' || c == '-') = false := by
  have := ne_of_word (dec_sub_word h) (p := '+') (by decide)
  have := ne_of_word (dec_sub_word h) (p := '-') (by decide)
  simp [*]

/-- the floating suffixes: in the tool's table, letters that are neither `e` nor `E` -/
theorem fsuffix_tbl : ∀ s ∈ Spec.floatSuffixes,
    Generated.floatSuffixes.contains s = true ∧ (∀ c ∈ s.toList, c ∈ asciiLetters ∧ isE c = false) := by
  unfold asciiLetters; rw [String.toList_ofList]; decide +kernel

theorem fsuffix_facts {s : String} (hs : s ∈ Spec.floatSuffixes) :
    (∀ c ∈ s.toList, c ∈ wordChars) ∧
    (∀ c ∈ s.toList, c ∉ decDigits ∧ isE c = false ∧ c ≠ '.' ∧ c ≠ '+' ∧ c ≠ '-') :=
  have h := (fsuffix_tbl s hs).2
  ⟨fun c hc => letters_sub_word (h c hc).1, fun c hc =>
    have hw := letters_sub_word (h c hc).1
    ⟨letters_not_dec c (h c hc).1, (h c hc).2, ne_of_word hw (by decide), ne_of_word hw (by decide),
      ne_of_word hw (by decide)⟩⟩

theorem isE_facts : isE 'e' = true ∧ isE 'E' = true ∧ (∀ c ∈ decDigits, isE c = false) ∧
    isE '+' = false ∧ isE '-' = false ∧ isE '.' = false :=
  ⟨by decide, by decide, fun _ => dec_not_isE, by decide, by decide, by decide⟩

/-- the head of `sfx ++ rest` (a floating suffix followed by an allowed continuation) is neither a
digit, an exponent letter, a dot nor a sign -/
theorem after_float (u : Uni) {sfx : String} (hs : sfx ∈ Spec.floatSuffixes) {rest : List Char} (hb : boundaryOK rest) :
    ∀ c, (sfx.toList ++ rest).head? = some c →
      u.isD c = false ∧ isE c = false ∧ c ≠ '.' ∧ c ≠ '+' ∧ c ≠ '-' := by
  intro c hc
  obtain ⟨hw, hf⟩ := fsuffix_facts hs
  cases hsl : sfx.toList with
  | nil =>
    rw [hsl] at hc
    simp only [List.nil_append] at hc
    obtain ⟨h1, h2, _, _, _, h6, h7, h8⟩ := boundary_head u hb c hc
    refine ⟨h2, ?_, h6, h7, h8⟩
    -- not a word character, so not `e`/`E`
    cases he : isE c
    · rfl
    · exfalso
      unfold isE at he
      simp only [Bool.or_eq_true, beq_iff_eq] at he
      have : u.isW c = true :=
        isW_of_word u (letters_sub_word (hexLetters_sub_letters (isE_hex (isE_iff.mpr he))))
      rw [h1] at this; cases this
  | cons d tl =>
    rw [hsl] at hc
    simp only [List.cons_append, List.head?_cons, Option.some.injEq] at hc
    subst hc
    have hd := hf d (by rw [hsl]; simp)
    have hwd := hw d (by rw [hsl]; simp)
    refine ⟨?_, hd.2.1, hd.2.2.1, hd.2.2.2.1, hd.2.2.2.2⟩
    exact Bool.eq_false_iff.mpr (fun h => hd.1 ((isD_iff u (word_ascii d hwd).1).mp h))

/-- the exponent group on a well-formed exponent part: exactly that part -/
theorem matchExp_valid (u : Uni) (x : ExpPart) (hx : x.WF) (after : List Char)
    (ha : ∀ c, after.head? = some c → u.isD c = false) (tail : List Char → Nat) :
    matchExp isE u.isD tail (x.render ++ after) = x.render := by
  obtain ⟨he, hsign, hne, hdig⟩ := hx
  have hisE : isE x.e = true := by rcases he with h | h <;> rw [h] <;> decide
  have hdD : ∀ c ∈ x.digits, u.isD c = true := fun c hc => (dec_facts u (hdig c hc)).1
  have hdE : ∀ c ∈ x.digits, isE c = false := fun c hc => isE_facts.2.2.1 c (hdig c hc)
  obtain ⟨d0, ds, hds⟩ : ∃ d0 ds, x.digits = d0 :: ds := by
    cases hd : x.digits with
    | nil => exact absurd hd hne
    | cons a b => exact ⟨a, b, rfl⟩
  have htw : (x.digits ++ after).takeWhile u.isD = x.digits := takeWhile_app hdD ha
  unfold matchExp spanP ExpPart.render
  cases hs : x.sign with
  | none =>
    simp only [Option.toList_none, List.nil_append, List.cons_append]
    have h1 : (x.e :: (x.digits ++ after)).takeWhile isE = [x.e] := by
      rw [hds]; simp [List.takeWhile, hisE, hdE d0 (by rw [hds]; simp)]
    have h2 : (x.e :: (x.digits ++ after)).dropWhile isE = x.digits ++ after := by
      rw [hds]; simp [List.dropWhile, hisE, hdE d0 (by rw [hds]; simp)]
    simp only [h1, h2, List.isEmpty_cons, Bool.false_eq_true, ↓reduceIte]
    have hnots : (d0 == '+' || d0 == '-') = false := by
      exact dec_not_sign (hdig d0 (by rw [hds]; simp))
    rw [hds] at htw ⊢
    simp only [List.cons_append, hnots, Bool.false_eq_true, ↓reduceIte]
    rw [show d0 :: (ds ++ after) = (d0 :: ds) ++ after by rfl, htw]
    simp
  | some sg =>
    have hsg := hsign sg hs
    simp only [Option.toList_some, List.cons_append, List.nil_append]
    have hsgE : isE sg = false := by rcases hsg with rfl | rfl <;> decide
    have h1 : (x.e :: sg :: (x.digits ++ after)).takeWhile isE = [x.e] := by
      simp [List.takeWhile, hisE, hsgE]
    have h2 : (x.e :: sg :: (x.digits ++ after)).dropWhile isE = sg :: (x.digits ++ after) := by
      simp [List.dropWhile, hisE, hsgE]
    simp only [h1, h2, List.isEmpty_cons, Bool.false_eq_true, ↓reduceIte]
    have hsgb : (sg == '+' || sg == '-') = true := by rcases hsg with rfl | rfl <;> decide
    simp only [hsgb, ↓reduceIte, htw]
    rw [hds]
    simp

end Norm

namespace Norm
open Spec

theorem floatSuffix_valid (u : Uni) {sfx : String} (hs : sfx ∈ Spec.floatSuffixes) {rest : List Char}
    (hb : boundaryOK rest) : floatSuffix u (sfx.toList ++ rest) = sfx.toList := by
  obtain ⟨hw, _⟩ := fsuffix_facts hs
  unfold floatSuffix
  apply takeWhile_app
  · intro c hc; simp [isW_of_word u (hw c hc)]
  · intro c hc
    obtain ⟨h1, _, _, _, _, h6, _⟩ := boundary_head u hb c hc
    simp [h1, h6]

theorem goodExponent_valid (u : Uni) (x : ExpPart) (hx : x.WF) : goodExponent u x.render = true := by
  obtain ⟨he, hsign, hne, hdig⟩ := hx
  have hisE : isE x.e = true := by rcases he with h | h <;> rw [h] <;> decide
  obtain ⟨d0, ds, hds⟩ : ∃ d0 ds, x.digits = d0 :: ds := by
    cases hd : x.digits with
    | nil => exact absurd hd hne
    | cons a b => exact ⟨a, b, rfl⟩
  have hd0 : u.isD d0 = true := (dec_facts u (hdig d0 (by rw [hds]; simp))).1
  unfold goodExponent ExpPart.render
  cases hs : x.sign with
  | none =>
    have hnots : (d0 == '+' || d0 == '-') = false := by
      exact dec_not_sign (hdig d0 (by rw [hds]; simp))
    simp [hisE, hds, hnots, hd0]
  | some sg =>
    have hsgb : (sg == '+' || sg == '-') = true := by
      rcases hsign sg hs with rfl | rfl <;> decide
    simp [hisE, hds, hsgb, hd0]

theorem count_dot_digits (l : List Char) (h : ∀ c ∈ l, c ∈ decDigits) : l.count '.' = 0 := by
  apply List.count_eq_zero.mpr
  intro hm
  exact ne_of_word (dec_sub_word (h '.' hm)) (by decide) rfl

theorem fsuffix_nodot {sfx : String} (hs : sfx ∈ Spec.floatSuffixes) : sfx.toList.count '.' = 0 := by
  obtain ⟨_, hf⟩ := fsuffix_facts hs
  apply List.count_eq_zero.mpr
  intro hm
  exact (hf '.' hm).2.2.1 rfl

/-- **The float parser on a well-formed decimal floating constant**: a match whose three groups
spell exactly the constant, and no diagnostic. -/
theorem floatLogic_dec_valid (u : Uni) (k : DecFloat) (hk : k.WF) (rest : List Char) (hb : boundaryOK rest)
    (line col : Nat) :
    ∃ m, floatLogic u line col (k.render ++ rest) = .tok m none ∧ m.const ++ m.exp ++ m.suf = k.render := by
  cases k with
  | exp ip x sfx =>
    obtain ⟨hipne, hip, hx, hs⟩ := hk
    have haf := after_float u hs hb
    have hxe : isE x.e = true := by rcases hx.1 with h | h <;> rw [h] <;> decide
    have hxd : u.isD x.e = false := isE_not_isD u hxe
    have hipD : ∀ c ∈ ip, u.isD c = true := fun c hc => (dec_facts u (hip c hc)).1
    have hsrc : DecFloat.render (.exp ip x sfx) ++ rest = ip ++ (x.render ++ (sfx.toList ++ rest)) := by
      simp [DecFloat.render, List.append_assoc]
    have hhead : ∀ c, (x.render ++ (sfx.toList ++ rest)).head? = some c → u.isD c = false := by
      intro c hc; simp [ExpPart.render] at hc; subst hc; exact hxd
    have htw : (ip ++ (x.render ++ (sfx.toList ++ rest))).takeWhile u.isD = ip := takeWhile_app hipD hhead
    have hdw : (ip ++ (x.render ++ (sfx.toList ++ rest))).dropWhile u.isD = x.render ++ (sfx.toList ++ rest) :=
      dropWhile_app hipD hhead
    have hme := matchExp_valid u x hx (sfx.toList ++ rest) (fun c hc => (haf c hc).1) (tailDec u)
    have hm : matchFloatExp u (ip ++ (x.render ++ (sfx.toList ++ rest))) =
        some ⟨.exponent, ip, x.render, sfx.toList⟩ := by
      unfold matchFloatExp spanP
      simp only [htw, hdw, hme]
      have h1 : ip.isEmpty = false := by cases ip with | nil => exact absurd rfl hipne | cons a b => rfl
      have h2 : x.render.isEmpty = false := by simp [ExpPart.render]
      simp only [h1, h2, Bool.false_eq_true, ↓reduceIte, List.drop_left', floatSuffix_valid u hs hb]
    refine ⟨⟨.exponent, ip, x.render, sfx.toList⟩, ?_, by simp [DecFloat.render, List.append_assoc]⟩
    rw [hsrc]
    unfold floatLogic
    simp only [hm]
    have hge := goodExponent_valid u x hx
    have hcnt : ip.count '.' = 0 := count_dot_digits ip hip
    have hsf : Generated.floatSuffixes.contains (String.ofList sfx.toList) = true := by
      rw [String.ofList_toList]; exact (fsuffix_tbl sfx hs).1
    have hsf' : sfx ∈ Generated.floatSuffixes := by simpa using hsf
    simp [hge, hcnt, hsf']
  | frac ip fp x sfx =>
    obtain ⟨hne, hip, hfp, hxw, hs⟩ := hk
    have haf := after_float u hs hb
    have hipD : ∀ c ∈ ip, u.isD c = true := fun c hc => (dec_facts u (hip c hc)).1
    have hfpD : ∀ c ∈ fp, u.isD c = true := fun c hc => (dec_facts u (hfp c hc)).1
    -- X = the rendered exponent part (possibly empty); its head, if any, is no digit
    let X : List Char := ExpPart.renderOpt x
    have hXhead : ∀ c, (X ++ (sfx.toList ++ rest)).head? = some c → u.isD c = false := by
      intro c hc
      cases hx : x with
      | none => simp only [X, hx, ExpPart.renderOpt, List.nil_append] at hc; exact (haf c hc).1
      | some y =>
        simp only [X, hx, ExpPart.renderOpt, ExpPart.render, List.cons_append, List.head?_cons, Option.some.injEq] at hc
        subst hc
        have hy := hxw y hx
        exact isE_not_isD u (isE_iff.mpr hy.1)
    have hsrc : DecFloat.render (.frac ip fp x sfx) ++ rest = ip ++ ('.' :: (fp ++ (X ++ (sfx.toList ++ rest)))) := by
      simp [DecFloat.render, X, List.append_assoc]
    have hdot : ∀ c, ('.' :: (fp ++ (X ++ (sfx.toList ++ rest)))).head? = some c → u.isD c = false := by
      intro c hc; simp at hc; subst hc
      exact isD_punct u (by decide)
    have htw : (ip ++ ('.' :: (fp ++ (X ++ (sfx.toList ++ rest))))).takeWhile u.isD = ip := takeWhile_app hipD hdot
    have hdw : (ip ++ ('.' :: (fp ++ (X ++ (sfx.toList ++ rest))))).dropWhile u.isD = '.' :: (fp ++ (X ++ (sfx.toList ++ rest))) :=
      dropWhile_app hipD hdot
    have hfs : (fp ++ (X ++ (sfx.toList ++ rest))).takeWhile u.isD = fp := takeWhile_app hfpD hXhead
    -- the exponent group on X ++ sfx ++ rest
    have hme : matchExp isE u.isD (tailDec u) (X ++ (sfx.toList ++ rest)) = X := by
      cases hx : x with
      | none =>
        simp only [X, hx, ExpPart.renderOpt, List.nil_append]
        unfold matchExp spanP
        have : (sfx.toList ++ rest).takeWhile isE = [] := by
          cases hl : sfx.toList ++ rest with
          | nil => rfl
          | cons c tl =>
            have := (haf c (by rw [hl]; rfl)).2.1
            simp [List.takeWhile, this]
        simp [this]
      | some y =>
        simp only [X, hx, ExpPart.renderOpt]
        exact matchExp_valid u y (hxw y hx) (sfx.toList ++ rest) (fun c hc => (haf c hc).1) (tailDec u)
    -- the exponent pattern does not apply (a dot follows the digits, or there are no digits)
    have hm1 : matchFloatExp u (ip ++ ('.' :: (fp ++ (X ++ (sfx.toList ++ rest))))) = none := by
      unfold matchFloatExp spanP
      simp only [htw, hdw]
      split
      · rfl
      · have : matchExp isE u.isD (tailDec u) ('.' :: (fp ++ (X ++ (sfx.toList ++ rest)))) = [] := by
          unfold matchExp spanP
          simp [List.takeWhile, isE_facts.2.2.2.2.2]
        simp [this]
    let c := if fp.isEmpty then ip ++ ['.'] else ip ++ '.' :: fp
    have hm2 : matchFloatFrac u (ip ++ ('.' :: (fp ++ (X ++ (sfx.toList ++ rest))))) =
        some ⟨.fractional, ip ++ '.' :: fp, X, sfx.toList⟩ := by
      unfold matchFloatFrac spanP
      simp only [htw, hdw, hfs]
      cases hfe : fp with
      | nil =>
        have hipne : ip.isEmpty = false := by
          rcases hne with h | h
          · cases ip with | nil => exact absurd rfl h | cons a b => rfl
          · exact absurd hfe h
        simp only [List.isEmpty_nil, Bool.not_true, Bool.false_eq_true, ↓reduceIte, hipne, Bool.not_false,
          List.nil_append]
        simp [hme, floatSuffix_valid u hs hb]
      | cons f0 fs =>
        simp only [List.isEmpty_cons, Bool.not_false, ↓reduceIte]
        have hdrop : (f0 :: fs ++ (X ++ (sfx.toList ++ rest))).drop (f0 :: fs).length = X ++ (sfx.toList ++ rest) := by
          simp
        rw [hdrop]
        simp only [hme, List.drop_left', floatSuffix_valid u hs hb]
    refine ⟨⟨.fractional, ip ++ '.' :: fp, X, sfx.toList⟩, ?_, by simp [DecFloat.render, X, List.append_assoc]⟩
    rw [hsrc]
    unfold floatLogic
    simp only [hm1, hm2]
    have hsf : Generated.floatSuffixes.contains (String.ofList sfx.toList) = true := by
      rw [String.ofList_toList]; exact (fsuffix_tbl sfx hs).1
    have hsd := fsuffix_nodot hs
    have hsf' : sfx ∈ Generated.floatSuffixes := by simpa using hsf
    have hgx : ¬ X = [] → goodExponent u X = true := by
      intro hX
      cases hx : x with
      | none => simp [X, hx, ExpPart.renderOpt] at hX
      | some y =>
        have := goodExponent_valid u y (hxw y hx)
        simpa [X, hx, ExpPart.renderOpt] using this
    simp [hsf', hsd]
    exact hgx

end Norm

namespace Norm
open Spec

theorem plain_of_word {c : Char} (h : c ∈ wordChars) : plainChar c := by
  obtain ⟨a, b, c', d, e, _, _⟩ := word_plain c h
  exact ⟨a, b, c', d, e⟩


theorem expPart_plain (x : ExpPart) (hx : x.WF) : ∀ c ∈ x.render, plainChar c := by
  obtain ⟨he, hsign, _, hdig⟩ := hx
  intro c hc
  simp only [ExpPart.render, List.mem_cons, List.mem_append, Option.mem_toList] at hc
  rcases hc with rfl | hc | hc
  · rcases he with h | h <;> rw [h] <;> (unfold plainChar; decide)
  · rcases hsign c hc with rfl | rfl <;> (unfold plainChar; decide)
  · exact plain_of_word (dec_sub_word (hdig c hc))

theorem decFloat_plain (k : DecFloat) (hk : k.WF) : ∀ c ∈ k.render, plainChar c := by
  cases k with
  | exp ip x sfx =>
    obtain ⟨_, hip, hx, hs⟩ := hk
    intro c hc
    simp only [DecFloat.render, List.mem_append] at hc
    rcases hc with (hc | hc) | hc
    · exact plain_of_word (dec_sub_word (hip c hc))
    · exact expPart_plain x hx c hc
    · exact plain_of_word ((fsuffix_facts hs).1 c hc)
  | frac ip fp x sfx =>
    obtain ⟨_, hip, hfp, hxw, hs⟩ := hk
    intro c hc
    simp only [DecFloat.render, List.mem_append, List.mem_cons] at hc
    rcases hc with ((hc | rfl | hc) | hc) | hc
    · exact plain_of_word (dec_sub_word (hip c hc))
    · unfold plainChar; decide
    · exact plain_of_word (dec_sub_word (hfp c hc))
    · cases hx : x with
      | none => rw [hx] at hc; simp [ExpPart.renderOpt] at hc
      | some y => rw [hx] at hc; exact expPart_plain y (hxw y hx) c hc
    · exact plain_of_word ((fsuffix_facts hs).1 c hc)

/-- **A well-formed decimal floating constant becomes one CONSTANT token spanning exactly the
constant, with no lexical diagnostic** — digit strings of any length, with or without a fraction,
with or without an exponent (either letter, either sign or none), every suffix of the standard, at
any position, whatever follows (within `boundaryOK`). -/
theorem float_valid (u : Uni) (k : DecFloat) (hk : k.WF) (rest : List Char) (hb : boundaryOK rest)
    (s : LexSt) (hr : s.rest = k.render ++ rest) :
    ∃ s' t, trySubLexers u s = .ok (some (s', t)) ∧ t.type = "CONSTANT" ∧
      t.value = some (String.ofList k.render) ∧ t.line = s.line ∧ t.col = s.col ∧
      s'.rest = rest ∧ s'.diags = s.diags := by
  obtain ⟨m, hfl, hm⟩ := floatLogic_dec_valid u k hk rest hb s.line s.col
  have hlen : m.const.length + m.exp.length + m.suf.length = k.render.length := by
    rw [← hm]; simp [List.length_append]; omega
  obtain ⟨n1, n2, n3⟩ := popN_plain k.render rest s hr (decFloat_plain k hk)
  have hne : k.render ≠ [] := by
    cases k with
    | exp ip x sfx => simp [DecFloat.render, ExpPart.render]
    | frac ip fp x sfx => simp [DecFloat.render]
  have hpf : ∃ s', parseFloat u s = some (s', mkTok "CONSTANT" s s' (some k.render)) ∧ s'.rest = rest ∧ s'.diags = s.diags := by
    unfold parseFloat
    rw [hr]
    cases hkr : k.render ++ rest with
    | nil =>
      exfalso
      have := congrArg List.length hkr
      simp only [List.length_append, List.length_nil] at this
      have : k.render.length = 0 := by omega
      exact hne (List.eq_nil_of_length_eq_zero this)
    | cons c0 tl0 =>
      simp only
      rw [← hkr, hfl]
      simp only [LexSt.addDiag?, hlen]
      cases hpn : popN k.render.length s with
      | mk s2 r2 =>
        rw [hpn] at n1 n2 n3
        simp only at n1 n2 n3
        subst n1
        exact ⟨s2, rfl, n2, n3⟩
  obtain ⟨s', h1, h2, h3⟩ := hpf
  refine ⟨s', mkTok "CONSTANT" s s' (some k.render), ?_, rfl, rfl, rfl, rfl, h2, h3⟩
  unfold trySubLexers
  rw [h1]

end Norm
