/-
C11, malformed integer constants: what the integer sub-lexer reports for a constant of a recognised shape —
an unknown suffix, a digit that its base does not allow — and that it reports nothing else.
-/
import NormModel.Proofs.LiteralsLex
namespace Norm
open Spec

/-- highlights (one character wide) of the digits that `ok` rejects; the first digit stands at column `col + off` -/
def badDigitHighlights (line col off : Nat) (digits : List Char) (ok : Char → Bool) : List Highlight :=
  (digits.zipIdx off).filterMap (fun p => if ok p.1 then none else some ⟨line, col + p.2, some 1, none⟩)

/-- one diagnostic carrying all of them, none when every digit is allowed -/
def digitReport (name : String) (line col off : Nat) (digits : List Char) (ok : Char → Bool) : List Diag :=
  if (badDigitHighlights line col off digits ok).isEmpty then []
  else [mkDiag name .error (badDigitHighlights line col off digits ok)]

/-- **the diagnostics expected for an integer constant of shape `k` that starts at (line, col)**: INVALID_SUFFIX
on the suffix when it is not one of the table, then INVALID_OCT_INT / INVALID_BIN_INT with one highlight per digit
that the base does not allow -/
def intDigitReport (k : IntConst) (line col : Nat) : List Diag :=
  match k.base with
  | .oct => digitReport "INVALID_OCT_INT" line col 1 k.digits isOct
  | .bin _ => digitReport "INVALID_BIN_INT" line col 2 k.digits isBin
  | _ => []

def intReport (k : IntConst) (line col : Nat) : List Diag :=
  (if k.suffix ∈ Spec.integerSuffixes then []
   else [mkDiag "INVALID_SUFFIX" .error [⟨line, col + k.body.length, some k.suffix.toList.length, none⟩]]) ++
  intDigitReport k line col

theorem gen_suffixes_sub : ∀ s ∈ Generated.integerSuffixes, s ∈ Spec.integerSuffixes :=
  fun _ h => integerSuffixes_perm.subset h

theorem badDigits_eq (line col : Nat) (pre const suf : List Char) (name : String) (bucket : List Char) (ok : Char → Bool)
    (h : ∀ c, bucket.contains c = ok c) :
    badDigits line col ⟨pre, const, suf⟩ name bucket = digitReport name line col pre.length const ok := by
  unfold badDigits digitReport badDigitHighlights
  simp only [h]

theorem isOct_bucket : ∀ c, "01234567".toList.contains c = isOct c := fun _ => rfl
theorem isBin_bucket : ∀ c, "01".toList.contains c = isBin c := fun _ => rfl

theorem body_length (k : IntConst) : k.render.length - k.suffix.toList.length = k.body.length := by
  unfold IntConst.render; simp

/-- the diagnostics the model computes for the match of a constant of shape `k` are `intReport k` -/
theorem intDiags_shape (k : IntConst) (hk : k.Shape) (line col : Nat) :
    intDiags line col k.render.length ⟨k.mpre, k.mconst, k.suffix.toList⟩ = intReport k line col := by
  obtain ⟨hs, hbase⟩ := hk
  obtain ⟨hw, hh⟩ := suffixShape_facts hs
  unfold intDiags intReport intDigitReport
  simp only [String.ofList_toList]
  congr 1
  · -- the suffix
    by_cases hmem : k.suffix ∈ Spec.integerSuffixes
    · simp only [(suffix_mem_iff k.suffix).mpr hmem, hmem, ↓reduceIte]
    · have hc : Generated.integerSuffixes.contains k.suffix = false := by
        cases h : Generated.integerSuffixes.contains k.suffix
        · rfl
        · exact absurd ((suffix_mem_iff _).mp h) hmem
      simp only [hc, hmem, Bool.false_eq_true, ↓reduceIte]
      cases hl : k.suffix.toList with
      | nil =>
        exfalso
        have : k.suffix = "" := by
          have := congrArg String.ofList hl
          simpa using this
        rw [this] at hmem
        exact hmem (by decide)
      | cons c tl =>
        obtain ⟨_, _, _, _, _, h6, h7, _, _⟩ := hh c (by rw [hl]; rfl)
        have : (c == '+' || c == '-') = false := by simp [h6, h7]
        simp only [this, Bool.false_eq_true, ↓reduceIte]
        have hb := body_length k
        rw [hl] at hb
        rw [hb]
  · -- the digits
    unfold IntConst.mpre IntConst.mconst
    cases hbse : k.base with
    | dec =>
      simp only
      have h1 : (String.ofList ([] : List Char) == "0b" || String.ofList ([] : List Char) == "0B") = false := by decide
      have h2 : (String.ofList ([] : List Char) == "0") = false := by decide
      have h3 : (String.ofList ([] : List Char) == "0x" || String.ofList ([] : List Char) == "0X") = false := by decide
      simp only [h1, h2, h3, Bool.false_eq_true, ↓reduceIte]
    | oct =>
      simp only
      by_cases hne : k.digits = []
      · rw [if_pos hne, if_pos hne]
        have h1 : (String.ofList ([] : List Char) == "0b" || String.ofList ([] : List Char) == "0B") = false := by decide
        have h2 : (String.ofList ([] : List Char) == "0") = false := by decide
        have h3 : (String.ofList ([] : List Char) == "0x" || String.ofList ([] : List Char) == "0X") = false := by decide
        simp only [h1, h2, h3, Bool.false_eq_true, ↓reduceIte]
        rw [hne]; rfl
      · rw [if_neg hne, if_neg hne]
        have h1 : (String.ofList ['0'] == "0b" || String.ofList ['0'] == "0B") = false := by decide
        have h2 : (String.ofList ['0'] == "0") = true := by decide
        simp only [h1, h2, Bool.false_eq_true, ↓reduceIte]
        exact badDigits_eq _ _ _ _ _ _ _ _ isOct_bucket
    | hex x =>
      rw [hbse] at hbase
      simp only at hbase ⊢
      obtain ⟨hx, _, hhex⟩ := hbase
      have hbk : ∀ c ∈ k.digits, "0123456789abcdefABCDEF".toList.contains c = true := by
        intro c hc; have := hhex c hc; unfold isHex at this; exact this
      rcases hx with rfl | rfl
      · have h1 : (String.ofList ['0', 'x'] == "0b" || String.ofList ['0', 'x'] == "0B") = false := by decide
        have h2 : (String.ofList ['0', 'x'] == "0") = false := by decide
        have h3 : (String.ofList ['0', 'x'] == "0x" || String.ofList ['0', 'x'] == "0X") = true := by decide
        simp only [h1, h2, h3, Bool.false_eq_true, ↓reduceIte]
        exact badDigits_nil _ _ _ _ _ hbk
      · have h1 : (String.ofList ['0', 'X'] == "0b" || String.ofList ['0', 'X'] == "0B") = false := by decide
        have h2 : (String.ofList ['0', 'X'] == "0") = false := by decide
        have h3 : (String.ofList ['0', 'X'] == "0x" || String.ofList ['0', 'X'] == "0X") = true := by decide
        simp only [h1, h2, h3, Bool.false_eq_true, ↓reduceIte]
        exact badDigits_nil _ _ _ _ _ hbk
    | bin b =>
      rw [hbse] at hbase
      simp only at hbase ⊢
      obtain ⟨hbb, _, _⟩ := hbase
      rcases hbb with rfl | rfl
      · have h1 : (String.ofList ['0', 'b'] == "0b" || String.ofList ['0', 'b'] == "0B") = true := by decide
        simp only [h1, ↓reduceIte]
        exact badDigits_eq _ _ _ _ _ _ _ _ isBin_bucket
      · have h1 : (String.ofList ['0', 'B'] == "0b" || String.ofList ['0', 'B'] == "0B") = true := by decide
        simp only [h1, ↓reduceIte]
        exact badDigits_eq _ _ _ _ _ _ _ _ isBin_bucket

/-- every character of a constant of the given shape is a letter, a digit or an underscore -/
theorem render_word_shape (k : IntConst) (hk : k.Shape) : ∀ c ∈ k.render, c ∈ wordChars := by
  obtain ⟨hs, hbase⟩ := hk
  have hsuf := (suffixShape_facts hs).1
  have ofDec : ∀ c, isDec c = true → c ∈ wordChars := fun c h => dec_sub_word (isDec_iff.mp h)
  have h0 : '0' ∈ wordChars := dec_sub_word zero_dec
  intro c hc
  unfold IntConst.render at hc
  rcases List.mem_append.mp hc with hc | hc
  · unfold IntConst.body at hc
    cases hb : k.base with
    | dec =>
      rw [hb] at hbase hc; simp only at hbase hc
      obtain ⟨d, ds, hd, hnz, hds⟩ := hbase
      rw [hd] at hc
      rcases List.mem_cons.mp hc with rfl | hc
      · exact dec_sub_word (nonzero_sub_dec hnz)
      · exact ofDec _ (hds c hc)
    | oct =>
      rw [hb] at hbase hc; simp only at hbase hc
      rcases List.mem_cons.mp hc with rfl | hc
      · exact h0
      · exact ofDec _ (hbase c hc)
    | hex x =>
      rw [hb] at hbase hc; simp only at hbase hc
      obtain ⟨hx, _, hh⟩ := hbase
      rcases List.mem_cons.mp hc with rfl | hc
      · exact h0
      · rcases List.mem_cons.mp hc with rfl | hc
        · exact letters_sub_word (isXc_letter (isXc_iff.mpr hx))
        · exact hex_sub_word (isHex_iff.mp (hh c hc))
    | bin b =>
      rw [hb] at hbase hc; simp only at hbase hc
      obtain ⟨hbb, _, hh⟩ := hbase
      rcases List.mem_cons.mp hc with rfl | hc
      · exact h0
      · rcases List.mem_cons.mp hc with rfl | hc
        · exact letters_sub_word (hexLetters_sub_letters (isBc_hex (isBc_iff.mpr hbb)))
        · exact ofDec _ (hh c hc)
  · exact hsuf c hc

/-- **An integer constant of a recognised shape, well-formed or not, becomes ONE `CONSTANT` token spanning it, and
the lexer adds exactly `intReport k`** — at any position, whatever follows (within `boundaryOK`). -/
theorem int_token (u : Uni) (k : IntConst) (hk : k.Shape) (rest : List Char) (hb : boundaryOK rest)
    (s : LexSt) (hr : s.rest = k.render ++ rest) :
    ∃ s' t, trySubLexers u s = .ok (some (s', t)) ∧ t.type = "CONSTANT" ∧
      t.value = some (String.ofList k.render) ∧ t.line = s.line ∧ t.col = s.col ∧
      s'.rest = rest ∧ s'.diags = s.diags ++ intReport k s.line s.col := by
  obtain ⟨hm, hsplit⟩ := matchInt_shape u k hk rest hb
  have hdiag := intDiags_shape k hk s.line s.col
  have hfl := floatLogic_int_noMatch u k hk rest hb s.line s.col
  have hplain : ∀ c ∈ k.render, plainChar c := by
    intro c hc
    obtain ⟨a, b, c', d, e, _⟩ := word_plain c (render_word_shape k hk c hc)
    exact ⟨a, b, c', d, e⟩
  obtain ⟨p1, p2, p3⟩ := popN_plain k.render rest s hr hplain
  have hlen : k.mpre.length + k.mconst.length + k.suffix.toList.length = k.render.length := by
    rw [← hsplit]; simp; omega
  have hpf : parseFloat u s = none := by
    unfold parseFloat
    rw [hr, hfl]
    split <;> rfl
  have hpi : parseInt u s = some ({ (popN k.render.length s).1 with
        diags := (popN k.render.length s).1.diags ++ intReport k s.line s.col },
      mkTok "CONSTANT" s { (popN k.render.length s).1 with
        diags := (popN k.render.length s).1.diags ++ intReport k s.line s.col } (some k.render)) := by
    unfold parseInt
    rw [hr, hm]
    simp only [hlen]
    cases hpn : popN k.render.length s with
    | mk s2 r2 =>
      rw [hpn] at p1
      simp only at p1
      subst p1
      simp only [hdiag]
  refine ⟨{ (popN k.render.length s).1 with
        diags := (popN k.render.length s).1.diags ++ intReport k s.line s.col },
      mkTok "CONSTANT" s { (popN k.render.length s).1 with
        diags := (popN k.render.length s).1.diags ++ intReport k s.line s.col } (some k.render),
      ?_, rfl, rfl, rfl, rfl, p2, ?_⟩
  · unfold trySubLexers
    rw [hpf, hpi]
  · simp only [p3]

/-! ### what `intReport` contains -/

theorem badDigitHighlights_nil (line col off : Nat) (digits : List Char) (ok : Char → Bool)
    (h : ∀ c ∈ digits, ok c = true) : badDigitHighlights line col off digits ok = [] := by
  unfold badDigitHighlights
  rw [List.filterMap_eq_nil_iff]
  intro p hp
  have : p.1 ∈ digits := by
    obtain ⟨i, hlt, hget⟩ := List.mem_iff_getElem.mp hp
    simp at hget
    rw [← hget]; simp
  simp [h p.1 this]

/-- a well-formed constant is reported clean -/
theorem intReport_wf (k : IntConst) (hk : k.WF) (line col : Nat) : intReport k line col = [] := by
  obtain ⟨hs, hbase⟩ := hk
  unfold intReport intDigitReport
  simp only [hs, ↓reduceIte, List.nil_append]
  cases hbse : k.base with
  | dec => rfl
  | hex x => rfl
  | oct =>
    rw [hbse] at hbase
    simp only at hbase ⊢
    unfold digitReport
    rw [badDigitHighlights_nil _ _ _ _ _ hbase]; rfl
  | bin b =>
    rw [hbse] at hbase
    simp only at hbase ⊢
    unfold digitReport
    rw [badDigitHighlights_nil _ _ _ _ _ hbase.2.2]; rfl

/-- a rejected digit gives a highlight -/
theorem badDigitHighlights_ne_nil (line col off : Nat) (digits : List Char) (ok : Char → Bool)
    (h : ∃ c ∈ digits, ok c = false) : badDigitHighlights line col off digits ok ≠ [] := by
  obtain ⟨c, hc, hok⟩ := h
  unfold badDigitHighlights
  intro he
  rw [List.filterMap_eq_nil_iff] at he
  obtain ⟨i, hlt, hget⟩ := List.mem_iff_getElem.mp hc
  have hmem : (c, off + i) ∈ digits.zipIdx off := by
    rw [List.mem_zipIdx_iff_le_and_getElem?_sub]
    refine ⟨by simp, ?_⟩
    simp [hget, List.getElem?_eq_getElem hlt]
  have := he (c, off + i) hmem
  simp [hok] at this

end Norm
