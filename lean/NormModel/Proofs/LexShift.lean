/- Line/offset equivariance of the lexer: started further down (more lines, larger offset) with
the same unread text and the same column, every function of the lexer does the same thing and
produces the same tokens and diagnostics, moved down by the same number of lines. -/
import NormModel.Model.Lexer
import NormModel.Proofs.FloatLogic
namespace Norm

def shHl (dl : Nat) (h : Highlight) : Highlight := { h with line := h.line + dl }
def shDiag (dl : Nat) (d : Diag) : Diag := { d with highlights := d.highlights.map (shHl dl) }
/-- the same lexer state further down in a longer text: `dl` more lines and `dp` more characters
precede it, and `d0` are the diagnostics collected there -/
def shSt (d0 : List Diag) (dl dp : Nat) (s : LexSt) : LexSt :=
  { s with line := s.line + dl, pos := s.pos + dp, diags := d0 ++ s.diags.map (shDiag dl) }
def shTok (dl dp : Nat) (t : Token) : Token :=
  { t with line := t.line + dl, start := t.start + dp, stop := t.stop + dp }

variable (d0 : List Diag) (dl dp : Nat)

@[simp] theorem shSt_rest (s : LexSt) : (shSt d0 dl dp s).rest = s.rest := rfl
@[simp] theorem shSt_col (s : LexSt) : (shSt d0 dl dp s).col = s.col := rfl
@[simp] theorem shSt_line (s : LexSt) : (shSt d0 dl dp s).line = s.line + dl := rfl
@[simp] theorem shSt_pos (s : LexSt) : (shSt d0 dl dp s).pos = s.pos + dp := rfl
@[simp] theorem shSt_diags (s : LexSt) : (shSt d0 dl dp s).diags = d0 ++ s.diags.map (shDiag dl) := rfl

theorem shDiag_mkDiag (name : String) (lvl : Level) (hs : List Highlight) :
    shDiag dl (mkDiag name lvl hs) = mkDiag name lvl (hs.map (shHl dl)) := rfl

theorem advance_sh (s : LexSt) (n : Nat) : advance (shSt d0 dl dp s) n = shSt d0 dl dp (advance s n) := by
  simp [advance, shSt]; omega

theorem addDiag_sh (s : LexSt) (d : Diag) : (shSt d0 dl dp s).addDiag (shDiag dl d) = shSt d0 dl dp (s.addDiag d) := by
  simp [LexSt.addDiag, shSt]

theorem spliceLoop_sh (fuel : Nat) (s : LexSt) :
    spliceLoop fuel (shSt d0 dl dp s) = (shSt d0 dl dp (spliceLoop fuel s).1, (spliceLoop fuel s).2) := by
  induction fuel generalizing s with
  | zero => rfl
  | succ fuel ih =>
    unfold spliceLoop
    simp only [shSt_rest]
    cases hp : peek1 s.rest 0 with
    | none => rfl
    | some p =>
      obtain ⟨c, sz⟩ := p
      simp only
      split
      · rfl
      · cases hq : peek1 s.rest sz with
        | none => rfl
        | some q =>
          obtain ⟨t, k⟩ := q
          simp only
          split
          · rfl
          · have : ({ advance (shSt d0 dl dp s) (sz + 1) with line := (shSt d0 dl dp s).line + 1, col := 1 } : LexSt)
                = shSt d0 dl dp { advance s (sz + 1) with line := s.line + 1, col := 1 } := by
              simp [advance, shSt]; omega
            rw [this, ih]

/-- the result of `escape` / `escOf`, moved -/
def shEsc (e : List Char × Nat × List Diag × Nat) : List Char × Nat × List Diag × Nat :=
  (e.1, e.2.1, e.2.2.1.map (shDiag dl), e.2.2.2)

theorem escape_sh (s : LexSt) (sz : Nat) (t : Char) (k : Nat) :
    escape (shSt d0 dl dp s) sz t k = shEsc dl (escape s sz t k) := by
  unfold escape shEsc
  simp only [shSt_rest, shSt_line, shSt_col]
  split
  · rfl
  · split
    · by_cases hds : (takeWhileFrom s.rest (sz + 1) isHexDigit).isEmpty = true
      · simp [hds, shDiag_mkDiag, shHl]
      · simp [hds]
    · split
      · rfl
      · simp [shDiag_mkDiag, shHl]

theorem escOf_sh (ue : Bool) (s : LexSt) (c : Char) (sz : Nat) :
    escOf ue (shSt d0 dl dp s) c sz = shEsc dl (escOf ue s c sz) := by
  unfold escOf
  simp only [shSt_rest]
  split
  · split
    · split
      · exact escape_sh d0 dl dp s sz _ _
      · rfl
    · rfl
  · rfl

theorem finishPop_sh (us : Bool) (s : LexSt) (e : List Char × Nat × List Diag × Nat) :
    finishPop us (shSt d0 dl dp s) (shEsc dl e) = (shSt d0 dl dp (finishPop us s e).1, (finishPop us s e).2) := by
  unfold finishPop shEsc
  simp only
  split
  · simp [advance, shSt]; omega
  · split
    · simp [advance, shSt]; omega
    · simp [advance, shSt]; omega

theorem popOne_sh (us ue : Bool) (s : LexSt) :
    popOne us ue (shSt d0 dl dp s) = (shSt d0 dl dp (popOne us ue s).1, (popOne us ue s).2) := by
  unfold popOne
  simp only [shSt_rest]
  rw [spliceLoop_sh]
  cases hsl : spliceLoop (s.rest.length + 1) s with
  | mk s1 r =>
    cases r with
    | none => rfl
    | some p =>
      obtain ⟨c, sz⟩ := p
      simp only
      rw [escOf_sh, finishPop_sh]

theorem popN_sh (n : Nat) (s : LexSt) :
    popN n (shSt d0 dl dp s) = (shSt d0 dl dp (popN n s).1, (popN n s).2) := by
  induction n generalizing s with
  | zero => rfl
  | succ n ih =>
    unfold popN
    rw [popOne_sh]
    cases hpo : popOne false false s with
    | mk s1 r =>
      cases r with
      | none => rfl
      | some cs =>
        simp only
        rw [ih]
        cases hpn : popN n s1 with
        | mk s2 r2 =>
          cases r2 <;> rfl

theorem mkTok_sh (ty : String) (s0 s1 : LexSt) (v : Option (List Char)) :
    mkTok ty (shSt d0 dl dp s0) (shSt d0 dl dp s1) v = shTok dl dp (mkTok ty s0 s1 v) := rfl

/-! ### sub-lexers -/

def shRes (r : Option (LexSt × Token)) : Option (LexSt × Token) :=
  r.map (fun p => (shSt d0 dl dp p.1, shTok dl dp p.2))

def shFloatRes : FloatRes → FloatRes
  | .noMatch => .noMatch
  | .tok m d => .tok m (d.map (shDiag dl))

theorem floatLogic_sh (u : Uni) (line col : Nat) (src : List Char) :
    floatLogic u (line + dl) col src = shFloatRes dl (floatLogic u line col src) := by
  simp only [floatLogic_eq]
  cases floatSel u src with
  | none => rfl
  | some m =>
    simp only [floatVerdict_eq]
    -- the line enters only where the report is placed
    cases floatReport u m with
    | none => rfl
    | some r => cases r <;> rfl

theorem addDiag?_sh (s : LexSt) (d : Option Diag) :
    (shSt d0 dl dp s).addDiag? (d.map (shDiag dl)) = shSt d0 dl dp (s.addDiag? d) := by
  cases d with
  | none => rfl
  | some x => exact addDiag_sh d0 dl dp s x

theorem parseFloat_sh (u : Uni) (s : LexSt) : parseFloat u (shSt d0 dl dp s) = shRes d0 dl dp (parseFloat u s) := by
  unfold parseFloat
  simp only [shSt_rest, shSt_line, shSt_col]
  split
  · rfl
  · rw [floatLogic_sh]
    cases hfl : floatLogic u s.line s.col s.rest with
    | noMatch => rfl
    | tok m d =>
      simp only [shFloatRes]
      rw [addDiag?_sh, popN_sh]
      cases hpn : popN (m.const.length + m.exp.length + m.suf.length) (s.addDiag? d) with
      | mk s2 r =>
        cases r with
        | none => rfl
        | some v => simp [shRes, mkTok_sh]

theorem badDigits_sh (line col : Nat) (m : IntMatch) (name : String) (bucket : List Char) :
    badDigits (line + dl) col m name bucket = (badDigits line col m name bucket).map (shDiag dl) := by
  unfold badDigits
  simp only
  have hmap : (List.filterMap (fun (x : Char × Nat) =>
        if bucket.contains x.1 = true then none else some ({ line := line + dl, col := col + x.2, length := some 1 } : Highlight))
        (m.const.zipIdx m.pre.length)) =
      (List.filterMap (fun (x : Char × Nat) =>
        if bucket.contains x.1 = true then none else some ({ line := line, col := col + x.2, length := some 1 } : Highlight))
        (m.const.zipIdx m.pre.length)).map (shHl dl) := by
    rw [List.map_filterMap]
    congr 1
    funext x
    split <;> simp [shHl]
  rw [hmap]
  generalize (List.filterMap (fun (x : Char × Nat) =>
        if bucket.contains x.1 = true then none else some ({ line := line, col := col + x.2, length := some 1 } : Highlight))
        (m.const.zipIdx m.pre.length)) = hs
  cases hs with
  | nil => rfl
  | cons h t => simp [shDiag_mkDiag]

theorem intDiags_sh (line col total : Nat) (m : IntMatch) :
    intDiags (line + dl) col total m = (intDiags line col total m).map (shDiag dl) := by
  unfold intDiags
  simp only [badDigits_sh, List.map_append]
  congr 1
  · split
    · rfl
    · split
      · split <;> simp [shDiag_mkDiag, shHl]
      · rfl
  · repeat' split
    all_goals simp

theorem parseInt_sh (u : Uni) (s : LexSt) : parseInt u (shSt d0 dl dp s) = shRes d0 dl dp (parseInt u s) := by
  unfold parseInt
  simp only [shSt_rest, shSt_line, shSt_col]
  cases hm : matchInt u s.rest with
  | none => rfl
  | some m =>
    simp only
    rw [popN_sh]
    cases hpn : popN (m.pre.length + m.const.length + m.suf.length) s with
    | mk s2 r =>
      cases r with
      | none => rfl
      | some v =>
        simp only [shRes, Option.map_some]
        rw [intDiags_sh]
        have : ({ shSt d0 dl dp s2 with diags := (shSt d0 dl dp s2).diags ++ (intDiags s.line s.col v.length m).map (shDiag dl) } : LexSt)
            = shSt d0 dl dp { s2 with diags := s2.diags ++ intDiags s.line s.col v.length m } := by
          simp [shSt]
        rw [this, mkTok_sh]

theorem charLoop_sh (line col fuel : Nat) (s : LexSt) (v : List Char) (n : Nat) :
    charLoop (line + dl) col fuel (shSt d0 dl dp s) v n =
      (shSt d0 dl dp (charLoop line col fuel s v n).1, (charLoop line col fuel s v n).2) := by
  induction fuel generalizing s v n with
  | zero => rfl
  | succ fuel ih =>
    unfold charLoop
    rw [popOne_sh]
    cases hpo : popOne false true s with
    | mk s1 r =>
      cases r with
      | none =>
        simp only
        rw [← addDiag_sh]
        simp [shDiag_mkDiag, shHl]
      | some ch =>
        simp only
        split
        · have : ({ shSt d0 dl dp s with diags := (shSt d0 dl dp s1).diags } : LexSt) = shSt d0 dl dp { s with diags := s1.diags } := by
            simp [shSt]
          rw [this, ← addDiag_sh]
          simp [shDiag_mkDiag, shHl]
        · split
          · rfl
          · exact ih _ _ _

/-- the tail of `parse_char_literal` after its loop -/
def charFin (s : LexSt) (r : LexSt × List Char × Nat) : Option (LexSt × Token) :=
  let s4 := if r.2.2 == 0 && endsWithTwoQuotes r.2.1 then
      r.1.addDiag (mkDiag "EMPTY_CHAR" .error [⟨s.line, s.col, some r.2.1.length, none⟩]) else r.1
  let s5 := if r.2.2 > 1 && r.2.1.getLast? == some '\'' then
      s4.addDiag (mkDiag "CHAR_AS_STRING" .error
        [⟨s.line, s.col, some r.2.1.length, none⟩, ⟨s.line, s.col, some 1, some charAsStringHint⟩])
    else s4
  some (s5, mkTok "CHAR_CONST" s s5 (some r.2.1))

/-- `parseChar` with its tail named -/
theorem parseChar_eq (s : LexSt) : parseChar s =
    (match quotePrefix '\'' s.rest Generated.quotePrefixes with
    | none => none
    | some n =>
      match popN n s with
      | (_, none) => none
      | (s1, some pre) =>
        if rawPeek s1.rest != some ['\''] then none else
        match popOne false false s1 with
        | (_, none) => none
        | (s2, some q) => charFin s (charLoop s.line s.col (s2.rest.length + 1) s2 (pre ++ q) 0)) := by
  rfl

theorem charFin_sh (s : LexSt) (r : LexSt × List Char × Nat) :
    charFin (shSt d0 dl dp s) (shSt d0 dl dp r.1, r.2) = shRes d0 dl dp (charFin s r) := by
  obtain ⟨s3, v, chars⟩ := r
  unfold charFin
  simp only [shSt_line, shSt_col, shRes, Option.map_some]
  have e4 : (if (chars == 0 && endsWithTwoQuotes v) = true then
        (shSt d0 dl dp s3).addDiag (mkDiag "EMPTY_CHAR" .error [⟨s.line + dl, s.col, some v.length, none⟩]) else shSt d0 dl dp s3)
      = shSt d0 dl dp (if (chars == 0 && endsWithTwoQuotes v) = true then
        s3.addDiag (mkDiag "EMPTY_CHAR" .error [⟨s.line, s.col, some v.length, none⟩]) else s3) := by
    split
    · rw [← addDiag_sh]; simp [shDiag_mkDiag, shHl]
    · rfl
  rw [e4]
  have e5 : ∀ s4 : LexSt, (if (decide (chars > 1) && v.getLast? == some '\'') = true then
        (shSt d0 dl dp s4).addDiag (mkDiag "CHAR_AS_STRING" .error
          [⟨s.line + dl, s.col, some v.length, none⟩, ⟨s.line + dl, s.col, some 1, some charAsStringHint⟩]) else shSt d0 dl dp s4)
      = shSt d0 dl dp (if (decide (chars > 1) && v.getLast? == some '\'') = true then
        s4.addDiag (mkDiag "CHAR_AS_STRING" .error
          [⟨s.line, s.col, some v.length, none⟩, ⟨s.line, s.col, some 1, some charAsStringHint⟩]) else s4) := by
    intro s4
    split
    · rw [← addDiag_sh]; simp [shDiag_mkDiag, shHl]
    · rfl
  rw [e5, mkTok_sh]

theorem parseChar_sh (s : LexSt) : parseChar (shSt d0 dl dp s) = shRes d0 dl dp (parseChar s) := by
  unfold parseChar
  simp only [shSt_rest]
  cases hq : quotePrefix '\'' s.rest Generated.quotePrefixes with
  | none => rfl
  | some n =>
    simp only
    rw [popN_sh]
    cases hpn : popN n s with
    | mk s1 r =>
      cases r with
      | none => rfl
      | some pre =>
        simp only [shSt_rest]
        by_cases hrp : (rawPeek s1.rest != some ['\'']) = true
        · simp only [hrp, ↓reduceIte]; rfl
        · simp only [hrp, Bool.false_eq_true, ↓reduceIte]
          rw [popOne_sh]
          cases hpo : popOne false false s1 with
          | mk s2 r2 =>
            cases r2 with
            | none => rfl
            | some q =>
              show charFin (shSt d0 dl dp s) (charLoop (shSt d0 dl dp s).line (shSt d0 dl dp s).col ((shSt d0 dl dp s2).rest.length + 1) (shSt d0 dl dp s2) (pre ++ q) 0)
                = shRes d0 dl dp (charFin s (charLoop s.line s.col (s2.rest.length + 1) s2 (pre ++ q) 0))
              simp only [shSt_rest, shSt_line, shSt_col]
              rw [charLoop_sh]
              exact charFin_sh d0 dl dp s _

theorem strLoop_sh (fuel : Nat) (s : LexSt) (v : List Char) :
    strLoop fuel (shSt d0 dl dp s) v = (shSt d0 dl dp (strLoop fuel s v).1, (strLoop fuel s v).2) := by
  induction fuel generalizing s v with
  | zero => rfl
  | succ fuel ih =>
    unfold strLoop
    simp only [shSt_rest]
    cases hp : peek1 s.rest 0 with
    | none => rfl
    | some p =>
      simp only
      rw [popOne_sh]
      cases hpo : popOne false true s with
      | mk s1 r =>
        cases r with
        | none => rfl
        | some ch =>
          simp only
          split
          · rfl
          · exact ih _ _

def strFin (s : LexSt) (r : LexSt × List Char × Bool) : Option (LexSt × Token) :=
  let s4 := if r.2.2 then
      r.1.addDiag (mkDiag "UNEXPECTED_EOF_STR" .error
        [⟨s.line, s.col, some r.2.1.length, none⟩, ⟨s.line, s.col + r.2.1.length, some 1, some strHint⟩])
    else r.1
  some (s4, mkTok "STRING" s s4 (some r.2.1))

/-- `parseString` with its tail named -/
theorem parseString_eq (s : LexSt) : parseString s =
    (match peek1 s.rest 0 with
    | none => none
    | some _ =>
    match quotePrefix '"' s.rest Generated.quotePrefixes with
    | none => none
    | some n =>
      match popN n s with
      | (_, none) => none
      | (s1, some pre) =>
        if rawPeek s1.rest != some ['"'] then none else
        match popOne false false s1 with
        | (_, none) => none
        | (s2, some q) => strFin s (strLoop (s2.rest.length + 1) s2 (pre ++ q))) := by
  rfl

theorem strFin_sh (s : LexSt) (r : LexSt × List Char × Bool) :
    strFin (shSt d0 dl dp s) (shSt d0 dl dp r.1, r.2) = shRes d0 dl dp (strFin s r) := by
  obtain ⟨s3, v, eof⟩ := r
  unfold strFin
  simp only [shSt_line, shSt_col, shRes, Option.map_some]
  have e4 : (if eof = true then
        (shSt d0 dl dp s3).addDiag (mkDiag "UNEXPECTED_EOF_STR" .error
          [⟨s.line + dl, s.col, some v.length, none⟩, ⟨s.line + dl, s.col + v.length, some 1, some strHint⟩]) else shSt d0 dl dp s3)
      = shSt d0 dl dp (if eof = true then
        s3.addDiag (mkDiag "UNEXPECTED_EOF_STR" .error
          [⟨s.line, s.col, some v.length, none⟩, ⟨s.line, s.col + v.length, some 1, some strHint⟩]) else s3) := by
    split
    · rw [← addDiag_sh]; simp [shDiag_mkDiag, shHl]
    · rfl
  rw [e4, mkTok_sh]

theorem parseString_sh (s : LexSt) : parseString (shSt d0 dl dp s) = shRes d0 dl dp (parseString s) := by
  unfold parseString
  simp only [shSt_rest]
  cases hp0 : peek1 s.rest 0 with
  | none => rfl
  | some p0 =>
    simp only
    cases hq : quotePrefix '"' s.rest Generated.quotePrefixes with
    | none => rfl
    | some n =>
      simp only
      rw [popN_sh]
      cases hpn : popN n s with
      | mk s1 r =>
        cases r with
        | none => rfl
        | some pre =>
          simp only [shSt_rest]
          by_cases hrp : (rawPeek s1.rest != some ['"']) = true
          · simp only [hrp, ↓reduceIte]; rfl
          · simp only [hrp, Bool.false_eq_true, ↓reduceIte]
            rw [popOne_sh]
            cases hpo : popOne false false s1 with
            | mk s2 r2 =>
              cases r2 with
              | none => rfl
              | some q =>
                show strFin (shSt d0 dl dp s) (strLoop ((shSt d0 dl dp s2).rest.length + 1) (shSt d0 dl dp s2) (pre ++ q))
                  = shRes d0 dl dp (strFin s (strLoop (s2.rest.length + 1) s2 (pre ++ q)))
                simp only [shSt_rest]
                rw [strLoop_sh]
                exact strFin_sh d0 dl dp s _

theorem identLoop_sh (fuel : Nat) (s : LexSt) (v : List Char) :
    identLoop fuel (shSt d0 dl dp s) v = (shSt d0 dl dp (identLoop fuel s v).1, (identLoop fuel s v).2) := by
  induction fuel generalizing s v with
  | zero => rfl
  | succ fuel ih =>
    unfold identLoop
    simp only [shSt_rest]
    cases hr : s.rest with
    | nil => rfl
    | cons c tl =>
      simp only
      split
      · rw [popOne_sh]
        cases hpo : popOne false false s with
        | mk s1 r =>
          cases r with
          | none => rfl
          | some ch => exact ih _ _
      · rfl

theorem parseIdent_sh (s : LexSt) : parseIdent (shSt d0 dl dp s) = shRes d0 dl dp (parseIdent s) := by
  unfold parseIdent
  simp only [shSt_rest]
  cases hr : s.rest with
  | nil => rfl
  | cons c tl =>
    simp only
    split
    · rfl
    · rw [popOne_sh]
      cases hpo : popOne false false s with
      | mk s1 r =>
        cases r with
        | none => rfl
        | some ch =>
          simp only [shSt_rest]
          rw [identLoop_sh]
          cases hil : identLoop (s1.rest.length + 1) s1 ch with
          | mk s2 v =>
            simp only
            split <;> simp [shRes, mkTok_sh]

theorem parseWhitespace_sh (s : LexSt) : parseWhitespace (shSt d0 dl dp s) = shRes d0 dl dp (parseWhitespace s) := by
  unfold parseWhitespace
  simp only [shSt_rest]
  cases hr : s.rest with
  | nil => rfl
  | cons c tl =>
    simp only
    split
    · rfl
    · rw [popOne_sh]
      cases hpo : popOne false false s with
      | mk s1 r =>
        cases r with
        | none => rfl
        | some ch => simp [shRes, mkTok_sh]

theorem lineCommentLoop_sh (fuel : Nat) (s : LexSt) (v : List Char) :
    lineCommentLoop fuel (shSt d0 dl dp s) v = (shSt d0 dl dp (lineCommentLoop fuel s v).1, (lineCommentLoop fuel s v).2) := by
  induction fuel generalizing s v with
  | zero => rfl
  | succ fuel ih =>
    unfold lineCommentLoop
    simp only [shSt_rest]
    cases hp : peek1 s.rest 0 with
    | none => rfl
    | some p =>
      obtain ⟨c, sz⟩ := p
      simp only
      split
      · rfl
      · rw [popOne_sh]
        cases hpo : popOne false false s with
        | mk s1 r =>
          cases r with
          | none => rfl
          | some ch => exact ih _ _

theorem parseLineComment_sh (s : LexSt) : parseLineComment (shSt d0 dl dp s) = shRes d0 dl dp (parseLineComment s) := by
  unfold parseLineComment
  simp only [shSt_rest]
  by_cases hrp : (rawPeek s.rest 0 2 != some ['/', '/']) = true
  · simp only [hrp, ↓reduceIte]; rfl
  · simp only [hrp, Bool.false_eq_true, ↓reduceIte]
    rw [popN_sh]
    cases hpn : popN 2 s with
    | mk s1 r =>
      cases r with
      | none => rfl
      | some v0 =>
        simp only [shSt_rest]
        rw [lineCommentLoop_sh]
        cases hl : lineCommentLoop (s1.rest.length + 1) s1 v0 with
        | mk s2 v => simp [shRes, mkTok_sh]

theorem multiCommentLoop_sh (fuel : Nat) (s : LexSt) (v : List Char) :
    multiCommentLoop fuel (shSt d0 dl dp s) v = (shSt d0 dl dp (multiCommentLoop fuel s v).1, (multiCommentLoop fuel s v).2) := by
  induction fuel generalizing s v with
  | zero => rfl
  | succ fuel ih =>
    unfold multiCommentLoop
    simp only [shSt_rest]
    cases hp : peek1 s.rest 0 with
    | none => rfl
    | some p =>
      simp only
      rw [popOne_sh]
      cases hpo : popOne true false s with
      | mk s1 r =>
        cases r with
        | none => rfl
        | some ch =>
          simp only
          split
          · rfl
          · exact ih _ _

def mcFin (s : LexSt) (r : LexSt × List Char × Bool) : Option (LexSt × Token) :=
  let s3 := if r.2.2 then
      r.1.addDiag (mkDiag "UNEXPECTED_EOF_MC" .error [⟨s.line, s.col, some r.2.1.length, none⟩]) else r.1
  some (s3, mkTok "MULT_COMMENT" s s3 (some r.2.1))

theorem mcFin_sh (s : LexSt) (r : LexSt × List Char × Bool) :
    mcFin (shSt d0 dl dp s) (shSt d0 dl dp r.1, r.2) = shRes d0 dl dp (mcFin s r) := by
  obtain ⟨s3, v, eof⟩ := r
  unfold mcFin
  simp only [shSt_line, shSt_col, shRes, Option.map_some]
  have e4 : (if eof = true then
        (shSt d0 dl dp s3).addDiag (mkDiag "UNEXPECTED_EOF_MC" .error [⟨s.line + dl, s.col, some v.length, none⟩]) else shSt d0 dl dp s3)
      = shSt d0 dl dp (if eof = true then
        s3.addDiag (mkDiag "UNEXPECTED_EOF_MC" .error [⟨s.line, s.col, some v.length, none⟩]) else s3) := by
    split
    · rw [← addDiag_sh]; simp [shDiag_mkDiag, shHl]
    · rfl
  rw [e4, mkTok_sh]

theorem parseMultiComment_sh (s : LexSt) : parseMultiComment (shSt d0 dl dp s) = shRes d0 dl dp (parseMultiComment s) := by
  unfold parseMultiComment
  simp only [shSt_rest]
  by_cases hrp : (rawPeek s.rest 0 2 != some ['/', '*']) = true
  · simp only [hrp, ↓reduceIte]; rfl
  · simp only [hrp, Bool.false_eq_true, ↓reduceIte]
    rw [popN_sh]
    cases hpn : popN 2 s with
    | mk s1 r =>
      cases r with
      | none => rfl
      | some v0 =>
        show mcFin (shSt d0 dl dp s) (multiCommentLoop ((shSt d0 dl dp s1).rest.length + 1) (shSt d0 dl dp s1) v0)
          = shRes d0 dl dp (mcFin s (multiCommentLoop (s1.rest.length + 1) s1 v0))
        simp only [shSt_rest]
        rw [multiCommentLoop_sh]
        exact mcFin_sh d0 dl dp s _

def shRes2 (r : Option (Option (LexSt × Token))) : Option (Option (LexSt × Token)) := r.map (shRes d0 dl dp)

theorem opFin_sh (s : LexSt) (n : Nat) : opFin (shSt d0 dl dp s) n = shRes2 d0 dl dp (opFin s n) := by
  unfold opFin
  rw [popN_sh]
  cases hpn : popN n s with
  | mk s1 r =>
    cases r with
    | none => rfl
    | some v =>
      simp only
      split <;> simp [shRes2, shRes, mkTok_sh]

theorem parseOperator_sh (s : LexSt) : parseOperator (shSt d0 dl dp s) = shRes2 d0 dl dp (parseOperator s) := by
  unfold parseOperator
  simp only [shSt_rest, opFin_sh]
  cases hp : peek1 s.rest 0 with
  | none => rfl
  | some p =>
    obtain ⟨c, sz⟩ := p
    simp only
    repeat' split
    all_goals rfl

theorem parseBrackets_sh (s : LexSt) : parseBrackets (shSt d0 dl dp s) = shRes d0 dl dp (parseBrackets s) := by
  unfold parseBrackets
  simp only [shSt_rest]
  cases hp : peek1 s.rest 0 with
  | none => rfl
  | some p =>
    obtain ⟨c, sz⟩ := p
    simp only
    cases hb : assoc Generated.brackets (String.ofList [c]) with
    | none => rfl
    | some ty =>
      simp only
      rw [popOne_sh]
      cases hpo : popOne false false s with
      | mk s1 r =>
        cases r with
        | none => rfl
        | some ch => simp [shRes, mkTok_sh]

theorem skipSplices_sh (fuel : Nat) (s : LexSt) : skipSplices fuel (shSt d0 dl dp s) = shSt d0 dl dp (skipSplices fuel s) := by
  induction fuel generalizing s with
  | zero => rfl
  | succ fuel ih =>
    unfold skipSplices
    simp only [shSt_rest]
    have e2 : ({ advance (shSt d0 dl dp s) 2 with line := (shSt d0 dl dp s).line + 1, col := 1 } : LexSt)
        = shSt d0 dl dp { advance s 2 with line := s.line + 1, col := 1 } := by
      simp [advance, shSt]; omega
    have e4 : ({ advance (shSt d0 dl dp s) 4 with line := (shSt d0 dl dp s).line + 1, col := 1 } : LexSt)
        = shSt d0 dl dp { advance s 4 with line := s.line + 1, col := 1 } := by
      simp [advance, shSt]; omega
    by_cases h2 : (rawPeek s.rest 0 2 == some ['\\', '\n']) = true
    · simp only [h2, ↓reduceIte]
      rw [e2, ih]
    · simp only [h2, Bool.false_eq_true, ↓reduceIte]
      by_cases h4 : (rawPeek s.rest 0 4 == some ['?', '?', '/', '\n']) = true
      · simp only [h4, ↓reduceIte]
        rw [e4, ih]
      · simp only [h4, Bool.false_eq_true, ↓reduceIte]

def shExc (r : Except LexExc (Option (LexSt × Token))) : Except LexExc (Option (LexSt × Token)) :=
  r.map (shRes d0 dl dp)

theorem trySubLexers_sh (u : Uni) (s : LexSt) : trySubLexers u (shSt d0 dl dp s) = shExc d0 dl dp (trySubLexers u s) := by
  unfold trySubLexers
  rw [parseFloat_sh, parseInt_sh, parseChar_sh, parseString_sh, parseIdent_sh, parseWhitespace_sh,
    parseLineComment_sh, parseMultiComment_sh, parseOperator_sh, parseBrackets_sh]
  cases parseFloat u s with
  | some r => rfl
  | none =>
  cases parseInt u s with
  | some r => rfl
  | none =>
  cases parseChar s with
  | some r => rfl
  | none =>
  cases parseString s with
  | some r => rfl
  | none =>
  cases parseIdent s with
  | some r => rfl
  | none =>
  cases parseWhitespace s with
  | some r => rfl
  | none =>
  cases parseLineComment s with
  | some r => rfl
  | none =>
  cases parseMultiComment s with
  | some r => rfl
  | none =>
  cases parseOperator s with
  | none => rfl
  | some o =>
    cases o with
    | some r => rfl
    | none => rfl

theorem badLexeme_sh (s : LexSt) (c : Char) : badLexeme (shSt d0 dl dp s) c = shSt d0 dl dp (badLexeme s c) := by
  simp [badLexeme, advance, LexSt.addDiag, shSt, shDiag, shHl]; omega

def shItem : Item → Item
  | .tok t => .tok (shTok dl dp t)
  | .bad c p => .bad c (p + dp)

/-- **The whole token stream is equivariant**: from the shifted state the run produces the
shifted items and ends in the shifted state. -/
theorem lexItems_sh (u : Uni) (fuel : Nat) (s : LexSt) :
    lexItems u fuel (shSt d0 dl dp s) = (lexItems u fuel s).map (fun r => (r.1.map (shItem dl dp), shSt d0 dl dp r.2)) := by
  induction fuel generalizing s with
  | zero => rfl
  | succ fuel ih =>
    unfold lexItems
    simp only [shSt_rest]
    rw [skipSplices_sh, trySubLexers_sh]
    cases htry : trySubLexers u (skipSplices (s.rest.length + 1) s) with
    | error e => rfl
    | ok r =>
      cases r with
      | some p =>
        obtain ⟨s1, t⟩ := p
        simp only [shExc, Except.map, shRes, Option.map_some]
        rw [ih]
        cases lexItems u fuel s1 with
        | error e => rfl
        | ok q => rfl
      | none =>
        simp only [shExc, Except.map, shRes, Option.map_none, shSt_rest]
        cases hr : (skipSplices (s.rest.length + 1) s).rest with
        | nil => rfl
        | cons c tl =>
          simp only
          rw [badLexeme_sh, ih]
          cases lexItems u fuel (badLexeme (skipSplices (s.rest.length + 1) s) c) with
          | error e => rfl
          | ok q => rfl

end Norm
