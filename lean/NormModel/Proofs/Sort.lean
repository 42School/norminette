/- Helper lemmas about the stable insertion sort of `Model/Reports.lean`. -/
import NormModel.Model.Reports
namespace Norm

variable {α : Type}

theorem insertBy_perm (le : α → α → Bool) (x : α) (l : List α) :
    (insertBy le x l).Perm (x :: l) := by
  induction l with
  | nil => simp [insertBy]
  | cons y ys ih =>
    simp only [insertBy]
    split
    · exact List.Perm.refl _
    · exact (List.Perm.cons y ih).trans (List.Perm.swap x y ys)

theorem sortBy_perm (le : α → α → Bool) (l : List α) : (sortBy le l).Perm l := by
  induction l with
  | nil => simp [sortBy]
  | cons x xs ih =>
    simp only [sortBy]
    exact (insertBy_perm le x _).trans (List.Perm.cons x ih)

theorem mem_insertBy {le : α → α → Bool} {x y : α} {l : List α} :
    y ∈ insertBy le x l ↔ y = x ∨ y ∈ l := by
  rw [(insertBy_perm le x l).mem_iff]; simp

theorem mem_sortBy {le : α → α → Bool} {y : α} {l : List α} : y ∈ sortBy le l ↔ y ∈ l :=
  (sortBy_perm le l).mem_iff

/-- Inserting into a sorted list keeps it sorted, given totality and transitivity of `le`
on the elements involved (a predicate `P` closed under membership). -/
theorem insertBy_sorted (le : α → α → Bool) (P : α → Prop)
    (total : ∀ a b, P a → P b → le a b = true ∨ le b a = true)
    (trans : ∀ a b c, P a → P b → P c → le a b = true → le b c = true → le a c = true)
    (x : α) (l : List α) (hx : P x) (hl : ∀ y ∈ l, P y)
    (hs : l.Pairwise (fun a b => le a b = true)) :
    (insertBy le x l).Pairwise (fun a b => le a b = true) := by
  induction l with
  | nil => simp [insertBy]
  | cons y ys ih =>
    have hy : P y := hl y (by simp)
    have hys : ∀ z ∈ ys, P z := fun z hz => hl z (by simp [hz])
    rw [List.pairwise_cons] at hs
    simp only [insertBy]
    split
    · rename_i hxy
      rw [List.pairwise_cons]
      refine ⟨?_, List.pairwise_cons.mpr hs⟩
      intro z hz
      rcases List.mem_cons.mp hz with rfl | hz
      · exact hxy
      · exact trans x y z hx hy (hys z hz) hxy (hs.1 z hz)
    · rename_i hxy
      have hyx : le y x = true := by
        rcases total x y hx hy with h | h
        · exact absurd h hxy
        · exact h
      rw [List.pairwise_cons]
      refine ⟨?_, ih hys hs.2⟩
      intro z hz
      rcases mem_insertBy.mp hz with rfl | hz
      · exact hyx
      · exact hs.1 z hz

theorem sortBy_sorted (le : α → α → Bool) (P : α → Prop)
    (total : ∀ a b, P a → P b → le a b = true ∨ le b a = true)
    (trans : ∀ a b c, P a → P b → P c → le a b = true → le b c = true → le a c = true)
    (l : List α) (hl : ∀ y ∈ l, P y) :
    (sortBy le l).Pairwise (fun a b => le a b = true) := by
  induction l with
  | nil => simp [sortBy]
  | cons x xs ih =>
    simp only [sortBy]
    apply insertBy_sorted le P total trans
    · exact hl x (by simp)
    · intro y hy; exact hl y (by simp [mem_sortBy.mp hy])
    · exact ih (fun y hy => hl y (by simp [hy]))

/-- **The result does not depend on the order of the input** when no two elements tie: `le` a total preorder, ties
only between elements with the same `key`, keys pairwise distinct. Both results are sorted permutations of `l`;
"sorted and keys differ" is antisymmetric, so `List.Perm.eq_of_pairwise` applies. -/
theorem sortBy_eq_of_perm {κ : Type} (le : α → α → Bool) (key : α → κ)
    (total : ∀ a b, le a b = true ∨ le b a = true)
    (trans : ∀ a b c, le a b = true → le b c = true → le a c = true)
    (ties : ∀ a b, le a b = true → le b a = true → key a = key b)
    {l l' : List α} (hp : l.Perm l') (hnd : (l.map key).Nodup) : sortBy le l = sortBy le l' := by
  have sorted : ∀ m, m.Perm l → (sortBy le m).Pairwise (fun a b => le a b = true ∧ key a ≠ key b) := fun m hm =>
    (sortBy_sorted le (fun _ => True) (fun a b _ _ => total a b) (fun a b c _ _ _ => trans a b c) m
      (fun _ _ => trivial)).and
      (List.pairwise_map.mp ((((sortBy_perm le m).trans hm).map key).nodup_iff.mpr hnd))
  exact List.Perm.eq_of_pairwise (fun a b _ _ h1 h2 => absurd (ties a b h1.1 h2.1) h1.2)
    (sorted l (.refl l)) (sorted l' hp.symm) ((sortBy_perm le l).trans (hp.trans (sortBy_perm le l').symm))

/-- sorting a sorted list changes nothing -/
theorem sortBy_eq_self (le : α → α → Bool) : ∀ {l : List α}, l.Pairwise (fun a b => le a b = true) → sortBy le l = l
  | [], _ => rfl
  | [_], _ => rfl
  | x :: y :: l, h => by
    rw [sortBy, sortBy_eq_self le (List.pairwise_cons.1 h).2, insertBy, if_pos ((List.pairwise_cons.1 h).1 y (by simp))]

/-- Stability: elements that compare equal (`le` both ways) keep their relative order.
Stated through `filter`: the sub-list of elements satisfying any predicate `q` that is
"le-closed upwards against x" is unchanged — we use the simpler classical form below. -/
theorem insertBy_filter (le : α → α → Bool) (q : α → Bool) (x : α) (l : List α)
    (hq : ∀ y ∈ l, q y = true → q x = true → le x y = true) :
    (insertBy le x l).filter q = (x :: l).filter q := by
  induction l with
  | nil => simp [insertBy]
  | cons y ys ih =>
    simp only [insertBy]
    split
    · rfl
    · rename_i hxy
      have ih' := ih (fun z hz => hq z (by simp [hz]))
      by_cases hqx : q x = true
      · by_cases hqy : q y = true
        · exact absurd (hq y (by simp) hqy hqx) hxy
        · simp [hqy, ih', hqx]
      · simp [List.filter_cons, ih', hqx]

end Norm
