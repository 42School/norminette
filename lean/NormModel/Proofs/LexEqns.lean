/- Equations of the lexer model: each says once what a function of `Model/Lexer.lean` computes, in a form that the
passes over the lexer (positions and content, shift, respelling, totality) can case on without unfolding the
function again. Only the model is imported. (`parse_float_literal` has its own file, `FloatLogic.lean`.) -/
import NormModel.Model.Lexer
namespace Norm

/-! ### `parse_operator`: how many characters it takes is decided from the unread text alone -/

/-- the number of characters `parse_operator` takes (`none`: the text does not start with an operator) -/
def opLen (rest : List Char) : Option Nat :=
  match peek1 rest 0 with
  | none => none
  | some (c, _) =>
    if !opChars.contains c then none else
    if opChars2.contains c then
      let r3 := rawPeek rest 0 3
      if r3 == some ">>=".toList || r3 == some "<<=".toList || r3 == some "...".toList then some 3 else
      match peek2 rest with
      | none => none
      | some (temp, _) =>
        if temp == ">>".toList || temp == "<<".toList || temp == "->".toList then some 2
        else if temp == [c, '='] && (assoc Generated.operators (String.ofList temp)).isSome then some 2
        else if opChars3.contains c && temp == [c, c] then some 2
        else some 1
    else some 1

/-- the token of an operator of `n` characters, `some none` when there is none -/
def opTok (s : LexSt) : Option Nat → Option (Option (LexSt × Token))
  | none => some none
  | some n => opFin s n

theorem parseOperator_eq (s : LexSt) : parseOperator s = opTok s (opLen s.rest) := by
  unfold parseOperator opLen
  cases peek1 s.rest 0 with
  | none => rfl
  | some p =>
    cases peek2 s.rest with
    | none => simp only [apply_ite (opTok s)]; rfl
    | some q => simp only [apply_ite (opTok s)]; rfl

theorem ite_ind {α : Type} {P : α → Prop} {c : Prop} [Decidable c] {a b : α} (ha : P a) (hb : P b) :
    P (if c then a else b) := by
  split <;> assumption

/-- every branch of `opLen` is `none` or a positive number -/
theorem opLen_pos {rest : List Char} {n : Nat} (h : opLen rest = some n) : 0 < n := by
  let P : Option Nat → Prop := fun o => ∀ n, o = some n → 0 < n
  have leaf : ∀ k, 0 < k → P (some k) := fun k hk n e => Option.some.inj e ▸ hk
  have nil : P none := fun n e => nomatch e
  suffices P (opLen rest) from this n h
  unfold opLen
  cases peek1 rest 0 with
  | none => exact nil
  | some p =>
    cases peek2 rest with
    | none => exact ite_ind nil (ite_ind (ite_ind (leaf 3 (by decide)) nil) (leaf 1 (by decide)))
    | some q =>
      exact ite_ind nil (ite_ind (ite_ind (leaf 3 (by decide)) (ite_ind (leaf 2 (by decide)) (ite_ind (leaf 2 (by decide))
        (ite_ind (leaf 2 (by decide)) (leaf 1 (by decide)))))) (leaf 1 (by decide)))

/-! ### the sub-lexer chain of `get_next_token` -/

/-- "this sub-lexer, else the rest of the chain" -/
def orElse (x : Option (LexSt × Token)) (k : Except LexExc (Option (LexSt × Token))) : Except LexExc (Option (LexSt × Token)) :=
  match x with
  | some r => .ok (some r)
  | none => k

/-- the end of the chain: operators (a miss in the table is a `KeyError`), then brackets -/
def opTail (s : LexSt) : Except LexExc (Option (LexSt × Token)) :=
  match parseOperator s with
  | none => .error .keyError
  | some (some r) => .ok (some r)
  | some none => .ok (parseBrackets s)

theorem trySubLexers_chain (u : Uni) (s : LexSt) : trySubLexers u s =
    orElse (parseFloat u s) (orElse (parseInt u s) (orElse (parseChar s) (orElse (parseString s) (orElse (parseIdent s)
      (orElse (parseWhitespace s) (orElse (parseLineComment s) (orElse (parseMultiComment s) (opTail s)))))))) := by
  rfl

/-- a property of every token a link of the chain can produce holds of the token the chain produces -/
theorem orElse_lift {P : LexSt × Token → Prop} {x : Option (LexSt × Token)}
    {k : Except LexExc (Option (LexSt × Token))} (hx : ∀ r, x = some r → P r) (hk : ∀ r, k = .ok (some r) → P r) :
    ∀ r, orElse x k = .ok (some r) → P r := by
  intro r h
  cases x with
  | some a => exact hx r (by simpa [orElse] using h)
  | none => exact hk r h

theorem opTail_lift {P : LexSt × Token → Prop} {s : LexSt} (ho : ∀ r, parseOperator s = some (some r) → P r)
    (hb : ∀ r, parseBrackets s = some r → P r) : ∀ r, opTail s = .ok (some r) → P r := by
  intro r h
  unfold opTail at h
  split at h
  · cases h
  · rename_i r' hr
    simp only [Except.ok.injEq, Option.some.injEq] at h
    exact ho r (h ▸ hr)
  · exact hb r (by simpa using h)

theorem orElse_error {x : Option (LexSt × Token)} {k : Except LexExc (Option (LexSt × Token))} {e : LexExc}
    (h : orElse x k = .error e) : k = .error e := by
  cases x with
  | some a => cases h
  | none => exact h

theorem orElse_none {x : Option (LexSt × Token)} {k : Except LexExc (Option (LexSt × Token))}
    (h : orElse x k = .ok none) : x = none ∧ k = .ok none := by
  cases x with
  | some a => cases h
  | none => exact ⟨rfl, h⟩

/-! ### escape sequences -/

/-- the five outcomes of `escape`: a simple escape, `\\x` without and with digits, an octal escape, anything else -/
theorem escape_cases (s : LexSt) (sz : Nat) (t : Char) (k : Nat) :
    (simpleEscapes.contains t = true ∧ escape s sz t k = (['\\', t], sz + k, [], 0)) ∨
    (t = 'x' ∧ takeWhileFrom s.rest (sz + 1) isHexDigit = [] ∧ escape s sz t k =
      (['\\', 'x'], sz + 1, [mkDiag "NO_HEX_DIGITS" .notice [⟨s.line, s.col + (sz + 1) - 1, some 1, none⟩]], 0)) ∨
    (t = 'x' ∧ takeWhileFrom s.rest (sz + 1) isHexDigit ≠ [] ∧ escape s sz t k =
      (['\\', 'x'] ++ takeWhileFrom s.rest (sz + 1) isHexDigit,
        sz + 1 + (takeWhileFrom s.rest (sz + 1) isHexDigit).length, [], 0)) ∨
    (isOctal t = true ∧ escape s sz t k =
      ('\\' :: takeWhileFrom s.rest sz isOctal, sz + (takeWhileFrom s.rest sz isOctal).length, [], 0)) ∨
    (simpleEscapes.contains t = false ∧ t ≠ 'x' ∧ isOctal t = false ∧ escape s sz t k =
      (['\\', t], sz + k, [mkDiag "UNKNOWN_ESCAPE" .notice [⟨s.line, s.col + sz, some 1, none⟩]],
        if t == '\t' then 3 - (s.col + sz - 1) % 4 else 0)) := by
  unfold escape
  by_cases hs : simpleEscapes.contains t = true
  · rw [if_pos hs]; exact Or.inl ⟨hs, rfl⟩
  rw [if_neg hs]
  by_cases hx : (t == 'x') = true
  · rw [if_pos hx]
    have hx' : t = 'x' := beq_iff_eq.mp hx
    by_cases hds : (takeWhileFrom s.rest (sz + 1) isHexDigit).isEmpty = true
    · rw [if_pos hds]; exact Or.inr (Or.inl ⟨hx', List.isEmpty_iff.mp hds, rfl⟩)
    · rw [if_neg hds]; exact Or.inr (Or.inr (Or.inl ⟨hx', fun e => hds (List.isEmpty_iff.mpr e), rfl⟩))
  rw [if_neg hx]
  by_cases ho : isOctal t = true
  · rw [if_pos ho]; exact Or.inr (Or.inr (Or.inr (Or.inl ⟨ho, rfl⟩)))
  · rw [if_neg ho]
    exact Or.inr (Or.inr (Or.inr (Or.inr ⟨by simpa using hs, fun e => hx (beq_iff_eq.mpr e), by simpa using ho, rfl⟩)))

/-! ### splices between tokens -/

/-- the raw size of a line splice at the head of the text, in either spelling -/
def spliceHead (l : List Char) : Option Nat :=
  if rawPeek l 0 2 == some ['\\', '\n'] then some 2
  else if rawPeek l 0 4 == some ['?', '?', '/', '\n'] then some 4 else none

theorem skipSplices_step (fuel : Nat) (s : LexSt) : skipSplices (fuel + 1) s =
    (match spliceHead s.rest with
     | some k => skipSplices fuel { advance s k with line := s.line + 1, col := 1 }
     | none => s) := by
  unfold spliceHead
  conv => lhs; unfold skipSplices
  split
  · rfl
  · split <;> rfl

/-- the text at a splice: `\⏎` or `??/⏎` -/
theorem spliceHead_spec {l : List Char} {k : Nat} (h : spliceHead l = some k) :
    (k = 2 ∧ ∃ tl, l = '\\' :: '\n' :: tl) ∨ (k = 4 ∧ ∃ tl, l = '?' :: '?' :: '/' :: '\n' :: tl) := by
  have take_eq : ∀ (n : Nat) (w : List Char), rawPeek l 0 n = some w → l = w ++ l.drop n := by
    intro n w hw
    unfold rawPeek at hw
    split at hw
    · simp only [List.drop_zero, Option.some.injEq] at hw
      rw [← hw, List.take_append_drop]
    · cases hw
  unfold spliceHead at h
  split at h
  · rename_i h1
    simp only [Option.some.injEq] at h
    exact Or.inl ⟨h.symm, l.drop 2, take_eq 2 _ (by simpa using h1)⟩
  · split at h
    · rename_i _ h2
      simp only [Option.some.injEq] at h
      exact Or.inr ⟨h.symm, l.drop 4, take_eq 4 _ (by simpa using h2)⟩
    · cases h

/-! ### the token stream -/

/-- what a successful round of `lexItems` did: a token, the end of the text, or a bad lexeme -/
theorem lexItems_succ_ok {u : Uni} {fuel : Nat} {s sf : LexSt} {items : List Item}
    (h : lexItems u (fuel + 1) s = .ok (items, sf)) :
    (∃ s1 t rest, trySubLexers u (skipSplices (s.rest.length + 1) s) = .ok (some (s1, t)) ∧
      lexItems u fuel s1 = .ok (rest, sf) ∧ items = .tok t :: rest) ∨
    (trySubLexers u (skipSplices (s.rest.length + 1) s) = .ok none ∧ (skipSplices (s.rest.length + 1) s).rest = [] ∧ items = []) ∨
    (∃ c tl rest, trySubLexers u (skipSplices (s.rest.length + 1) s) = .ok none ∧
      (skipSplices (s.rest.length + 1) s).rest = c :: tl ∧
      lexItems u fuel (badLexeme (skipSplices (s.rest.length + 1) s) c) = .ok (rest, sf) ∧
      items = .bad c (skipSplices (s.rest.length + 1) s).pos :: rest) := by
  unfold lexItems at h
  simp only at h
  split at h
  · cases h
  · rename_i s1 t ht
    split at h
    · cases h
    · rename_i rest sf' hr
      cases h
      exact Or.inl ⟨s1, t, rest, ht, hr, rfl⟩
  · rename_i ht
    split at h
    · cases h
      exact Or.inr (Or.inl ⟨ht, ‹_›, rfl⟩)
    · rename_i c tl hc
      split at h
      · cases h
      · rename_i rest sf' hr
        cases h
        exact Or.inr (Or.inr ⟨c, tl, rest, ht, hc, hr, rfl⟩)

end Norm
