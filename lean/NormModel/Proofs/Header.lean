/- The state machine of `CheckHeader` (`Model/Header.lean`): once a statement has set `parsed`, nothing moves. -/
import NormModel.Model.Header
namespace Norm

/-- once `parsed` is set the machine no longer moves -/
theorem headerStep_parsed (srch : List Char → Bool) (st : HState) (e : HEvent) (h : st.parsed = true) :
    headerStep srch st e = st := by
  unfold headerStep; simp [h]

theorem headerFold_parsed (srch : List Char → Bool) (es : List HEvent) (st : HState) (h : st.parsed = true) :
    es.foldl (headerStep srch) st = st := by
  induction es with
  | nil => rfl
  | cons e es ih => rw [List.foldl_cons, headerStep_parsed srch st e h, ih]

/-- an error is counted only by the step that sets `parsed` -/
theorem headerStep_errors (srch : List Char → Bool) (st : HState) (e : HEvent) :
    (headerStep srch st e).errors = st.errors ∨
      ((headerStep srch st e).parsed = true ∧ (headerStep srch st e).errors = st.errors + 1) := by
  unfold headerStep
  repeat' split
  all_goals simp

end Norm
