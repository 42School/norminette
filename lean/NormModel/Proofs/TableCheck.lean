/-
Cheap kernel checks for facts about the regenerated string tables.  The kernel evaluates `String`
equality by re-expanding both literals to bytes at every comparison, and the `Decidable` instance of
`List.Nodup` adds its own plumbing per pair; here every string is read once (as a number) and the
pairs are compared by `Nat.beq`, which the kernel computes natively.
-/
namespace Norm

/-- pairwise distinct numbers -/
def distinctNat : List Nat → Bool
  | [] => true
  | a :: l => l.all (fun b => !Nat.beq a b) && distinctNat l

theorem nodup_of_distinctNat : ∀ l : List Nat, distinctNat l = true → l.Nodup
  | [], _ => List.nodup_nil
  | a :: l, h => by
    simp only [distinctNat, Bool.and_eq_true, List.all_eq_true, Bool.not_eq_true'] at h
    exact List.nodup_cons.2 ⟨fun hm => Bool.noConfusion ((h.1 a hm).symm.trans (Nat.beq_refl a)),
      nodup_of_distinctNat l h.2⟩

/-- a list is duplicate-free as soon as some numbering of its elements is (the numbering need not be injective) -/
theorem nodup_of_codes {α} (code : α → Nat) (l : List α) (h : distinctNat (l.map code) = true) : l.Nodup :=
  (List.pairwise_map.1 (nodup_of_distinctNat _ h)).imp fun hne heq => hne (congrArg code heq)

/-- the UTF-8 bytes of a string read as one number in base 256 -/
def strCode (s : String) : Nat := s.toByteArray.data.toList.foldl (fun n b => n * 256 + b.toNat) 0

end Norm
