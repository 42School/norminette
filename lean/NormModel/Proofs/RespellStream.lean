/- Reading equivalence through `get_next_token` and the whole token stream. -/
import NormModel.Proofs.RespellTokens
namespace Norm
open Spec

/-- what two rounds of the sub-lexer chain have in common -/
def ChainSimV (V : Token → Prop) : Except LexExc (Option (LexSt × Token)) → Except LexExc (Option (LexSt × Token)) → Prop
  | .ok x, .ok y => TokSimV V x y
  | .error e, .error e' => e = e'
  | _, _ => False

variable {V : Token → Prop}

theorem chain_step {x y : Option (LexSt × Token)} (hxy : TokSimV V x y)
    {ka kb : Except LexExc (Option (LexSt × Token))} (hk : ChainSimV V ka kb) :
    ChainSimV V (orElse x ka) (orElse y kb) := by
  cases x with
  | none => cases y with
    | none => exact hk
    | some q => exact hxy.elim
  | some p => cases y with
    | none => exact hxy.elim
    | some q => exact hxy

theorem opTail_readEq (s t : LexSt) (h : ReadEq s.rest t.rest) : ChainSimV V (opTail s) (opTail t) := by
  have ho := parseOperator_readEq s t h
  unfold opTail
  generalize parseOperator s = x, parseOperator t = y at ho
  cases x with
  | none => cases y with
    | none => rfl
    | some y => exact ho.elim
  | some x => cases y with
    | none => exact ho.elim
    | some y =>
      cases x with
      | none => cases y with
        | none => exact parseBrackets_readEq s t h
        | some y => exact ho.elim
      | some x => cases y with
        | none => exact ho.elim
        | some y => exact ⟨ho.1, fun _ => ho.2.1, ho.2.2⟩

/-- **One round of the sub-lexer chain** gives the same token in both texts; only the block comment needs a word of its
own (its text is not compared). -/
theorem chain_readEq (u : Uni) (s t : LexSt) (h : ReadEq s.rest t.rest)
    (hmc : TokSimV V (parseMultiComment s) (parseMultiComment t)) : ChainSimV V (trySubLexers u s) (trySubLexers u t) := by
  rw [trySubLexers_chain, trySubLexers_chain]
  exact chain_step (parseFloat_readEq u s t h) (chain_step (parseInt_readEq u s t h) (chain_step (parseChar_readEq s t h)
    (chain_step (parseString_readEq s t h) (chain_step (parseIdent_readEq s t h) (chain_step (parseWhitespace_readEq s t h)
    (chain_step (parseLineComment_readEq s t h) (chain_step hmc (opTail_readEq s t h))))))))

theorem trySubLexers_readEq (u : Uni) (s t : LexSt) (h : ReadEq s.rest t.rest) :
    ChainSimV (·.type ≠ "MULT_COMMENT") (trySubLexers u s) (trySubLexers u t) :=
  chain_readEq u s t h (parseMultiComment_readEq (fun _ hx => hx) s t h)

/-- **A punctuator is the same token in every spelling** — through the whole chain of sub-lexers: when the next
character read starts a punctuator (any of `# ^ [ ] | { } ~ ? < % : + - * , > & ! = ; ( )`), two texts that read as the same characters give tokens of the same
kind and value (an operator by longest match, or a bracket), and what is left again reads as the same characters.
No block comment starts here (`/` is read from itself only), so the values agree without exception. -/
theorem token_readEq (u : Uni) (s t : LexSt) (h : ReadEq s.rest t.rest) (c : Char) (k : Nat)
    (hp : peek1 s.rest 0 = some (c, k)) (hc : c ∈ altPunct) :
    ChainSim (trySubLexers u s) (trySubLexers u t) := by
  have key : ∀ {s : LexSt} {k : Nat}, peek1 s.rest 0 = some (c, k) → parseMultiComment s = none := by
    intro s k hp
    unfold parseMultiComment
    rw [if_pos]
    rw [bne_iff_ne]
    intro hraw
    obtain ⟨tl, e⟩ := (rawPeek_eq_some (w := ['/', '*']) rfl (by decide)).mp hraw
    rw [e, show ['/', '*'] ++ tl = '/' :: '*' :: tl from rfl, peek1_plain (by decide)] at hp
    cases hp
    revert hc; decide
  obtain ⟨_, _, h2, _⟩ | ⟨c', ka, kb, h1, h2, _⟩ := h.peek
  · rw [hp] at ‹peek1 s.rest 0 = none›; contradiction
  · cases (Option.some.inj (hp.symm.trans h1))
    have := chain_readEq (V := fun _ => True) u s t h (by rw [key hp, key h2]; trivial)
    generalize trySubLexers u s = x, trySubLexers u t = y at this
    cases x <;> cases y <;> first | exact this | exact tokSim_iff.mpr this

/-! ### splices between tokens -/

theorem tri_backslash : ∀ p ∈ Generated.trigraphs, p.2.toList.head? = some '\\' → p.1 = "??/" := by decide
theorem di_no_backslash : ∀ p ∈ Generated.digraphs, p.2.toList.head? ≠ some '\\' := by decide

theorem spliceHead_reads {l : List Char} {k : Nat} (h : spliceHead l = some k) :
    1 ≤ k ∧ peek1 l 0 = some ('\\', k - 1) ∧ peek1 (l.drop (k - 1)) 0 = some ('\n', 1) := by
  unfold spliceHead at h
  split at h
  · rename_i h1
    cases h
    obtain ⟨tl, rfl⟩ := (rawPeek_eq_some (w := ['\\', '\n']) rfl (by decide)).mp (beq_iff_eq.mp h1)
    exact ⟨by omega, peek1_raw (by decide) (by decide) (by decide) (by decide),
      peek1_raw (by decide) (by decide) (by decide) (by decide)⟩
  · split at h
    · rename_i _ h2
      cases h
      obtain ⟨tl, rfl⟩ := (rawPeek_eq_some (w := ['?', '?', '/', '\n']) rfl (by decide)).mp (beq_iff_eq.mp h2)
      refine ⟨by omega, ?_, peek1_raw (by decide) (by decide) (by decide) (by decide)⟩
      have ht : triAt ('?' :: '?' :: '/' :: '\n' :: tl) = some '\\' := by simp only [triAt]; decide
      unfold peek1
      simp only [List.cons_append, List.nil_append, List.drop_zero, ht]
    · cases h

theorem reads_spliceHead {l : List Char} {j m : Nat} (h1 : peek1 l 0 = some ('\\', j))
    (h2 : peek1 (l.drop j) 0 = some ('\n', m)) : spliceHead l = some (j + 1) := by
  obtain ⟨hm, hhead⟩ := peek1_ws h2 (Or.inl rfl)
  simp only [List.drop_zero] at hhead
  cases l with
  | nil => simp [peek1, triAt, diAt] at h1
  | cons x tl =>
    unfold peek1 at h1
    simp only [List.drop_zero] at h1
    cases ht : triAt (x :: tl) with
    | some c =>
      rw [ht] at h1
      simp only [Option.some.injEq, Prod.mk.injEq] at h1
      obtain ⟨rfl, rfl⟩ := h1
      -- the trigraph is `??/`
      unfold triAt at ht
      split at ht
      · rename_i c2 rest heq
        simp only [Option.bind_eq_some_iff] at ht
        obtain ⟨v, hv, hh⟩ := ht
        have := tri_backslash _ (assoc_mem hv) hh
        have e2 : ['?', '?', c2] = "??/".toList := by
          have := congrArg String.toList this
          simpa using this
        have hc2 : c2 = '/' := by
          have e3 : "??/".toList = ['?', '?', '/'] := by decide
          rw [e3] at e2
          simpa using e2
        subst hc2
        rw [heq] at hhead ⊢
        simp only [List.drop_succ_cons, List.drop_zero] at hhead
        cases rest with
        | nil => simp at hhead
        | cons y ys =>
          simp only [List.head?_cons, Option.some.injEq] at hhead
          subst hhead
          simp [spliceHead, rawPeek]
      · cases ht
    | none =>
      rw [ht] at h1
      simp only at h1
      cases hd : diAt (x :: tl) with
      | some d =>
        rw [hd] at h1
        simp only [Option.some.injEq, Prod.mk.injEq] at h1
        obtain ⟨rfl, rfl⟩ := h1
        exfalso
        unfold diAt at hd
        split at hd
        · simp only [Option.bind_eq_some_iff] at hd
          obtain ⟨v, hv, hh⟩ := hd
          exact di_no_backslash _ (assoc_mem hv) hh
        · cases hd
      | none =>
        rw [hd] at h1
        simp only [Option.some.injEq, Prod.mk.injEq] at h1
        obtain ⟨rfl, rfl⟩ := h1
        simp only [List.drop_succ_cons, List.drop_zero] at hhead
        cases tl with
        | nil => simp at hhead
        | cons y ys =>
          simp only [List.head?_cons, Option.some.injEq] at hhead
          subst hhead
          simp [spliceHead, rawPeek]

theorem spliceHead_readEq {a b : List Char} (h : ReadEq a b) :
    (spliceHead a = none ∧ spliceHead b = none) ∨
    ∃ ka kb, spliceHead a = some ka ∧ spliceHead b = some kb ∧ ReadEq (a.drop ka) (b.drop kb) := by
  have key : ∀ {l m : List Char} {k : Nat}, ReadEq l m → spliceHead l = some k →
      ∃ k', spliceHead m = some k' ∧ ReadEq (l.drop k) (m.drop k') := by
    intro l m k hlm hk
    obtain ⟨hk1, r1, r2⟩ := spliceHead_reads hk
    rcases hlm.peek with ⟨g1, _, _, _⟩ | ⟨c, ja, jb, g1, g2, g3⟩
    · rw [r1] at g1; cases g1
    · rw [r1] at g1
      simp only [Option.some.injEq, Prod.mk.injEq] at g1
      obtain ⟨rfl, rfl⟩ := g1
      rcases g3.peek with ⟨f1, _, _, _⟩ | ⟨d, ia, ib, f1, f2, f3⟩
      · rw [r2] at f1; cases f1
      · rw [r2] at f1
        simp only [Option.some.injEq, Prod.mk.injEq] at f1
        obtain ⟨rfl, rfl⟩ := f1
        obtain ⟨hib, _⟩ := peek1_ws f2 (Or.inl rfl)
        subst hib
        refine ⟨jb + 1, reads_spliceHead g2 f2, ?_⟩
        have : k = (k - 1) + 1 := by omega
        rw [this, ← List.drop_drop, ← List.drop_drop]
        exact f3
  cases ha : spliceHead a with
  | some ka =>
    obtain ⟨kb, hb, hr⟩ := key h ha
    exact Or.inr ⟨ka, kb, rfl, hb, hr⟩
  | none =>
    cases hb : spliceHead b with
    | none => exact Or.inl ⟨rfl, rfl⟩
    | some kb =>
      obtain ⟨ka, ha', _⟩ := key h.symm hb
      rw [ha] at ha'; cases ha'

theorem skipSplices_readEq (fa fb : Nat) (s t : LexSt) (hfa : s.rest.length < fa) (hfb : t.rest.length < fb)
    (h : ReadEq s.rest t.rest) : ReadEq (skipSplices fa s).rest (skipSplices fb t).rest := by
  refine fuel_sim (·.rest.length) (·.rest.length) skipSplices skipSplices (fun s t => ReadEq s.rest t.rest)
    (fun r r' => ReadEq r.rest r'.rest) ?_ fa fb s t hfa hfb h
  intro fa fb s t h ih
  rw [skipSplices_step, skipSplices_step]
  rcases spliceHead_readEq h with ⟨h1, h2⟩ | ⟨ka, kb, h1, h2, h3⟩
  · rw [h1, h2]; exact h
  · rw [h1, h2]
    obtain ⟨_, ra1, _⟩ := spliceHead_reads h1
    obtain ⟨_, rb1, _⟩ := spliceHead_reads h2
    obtain ⟨_, _, _⟩ := peek1_spec ra1
    obtain ⟨_, _, _⟩ := peek1_spec rb1
    apply ih
    · simpa [advance] using h3
    · simp only [advance, List.length_drop]; omega
    · simp only [advance, List.length_drop]; omega

/-! ### the whole stream -/

/-- What the items of two lexings have in common: tokens of the same kind with the same value (the text of a block
comment excepted), the same bad lexemes — up to a bad lexeme whose character is not plain (in practice a stray
backslash, written `\` or `??/`): there each lexer skips one raw character and nothing is claimed after it. -/
inductive ItemsSim : List Item → List Item → Prop
  | nil : ItemsSim [] []
  | tok {x y : Token} {xs ys : List Item} : x.type = y.type → (x.type ≠ "MULT_COMMENT" → x.value = y.value) →
      ItemsSim xs ys → ItemsSim (.tok x :: xs) (.tok y :: ys)
  | bad {c : Char} {p q : Nat} {xs ys : List Item} : Plain c → ItemsSim xs ys → ItemsSim (.bad c p :: xs) (.bad c q :: ys)
  | stray {c d : Char} {p q : Nat} {xs ys : List Item} : ¬ Plain c → ¬ Plain d → ItemsSim (.bad c p :: xs) (.bad d q :: ys)

theorem badLexeme_rest (s : LexSt) (c : Char) : (badLexeme s c).rest = s.rest.drop 1 := rfl

theorem lexItems_readEq (u : Uni) (fa : Nat) : ∀ (fb : Nat) (s t : LexSt) (ia ib : List Item) (sa sb : LexSt),
    lexItems u fa s = .ok (ia, sa) → lexItems u fb t = .ok (ib, sb) → ReadEq s.rest t.rest → ItemsSim ia ib := by
  induction fa with
  | zero => intro fb s t ia ib sa sb h; simp [lexItems] at h
  | succ fa ih =>
    intro fb s t ia ib sa sb ha hb h
    cases fb with
    | zero => simp [lexItems] at hb
    | succ fb =>
      have hsk := skipSplices_readEq (s.rest.length + 1) (t.rest.length + 1) s t (by omega) (by omega) h
      have hch := trySubLexers_readEq u _ _ hsk
      rcases lexItems_succ_ok ha with ⟨s1, x, ra, ta, la, rfl⟩ | ⟨ta, ea, rfl⟩ | ⟨c, tla, ra, ta, ea, la, rfl⟩ <;>
        rcases lexItems_succ_ok hb with ⟨t1, y, rb, tb, lb, rfl⟩ | ⟨tb, eb, rfl⟩ | ⟨d, tlb, rb, tb, eb, lb, rfl⟩ <;>
        rw [ta, tb] at hch
      · exact ItemsSim.tok hch.1 hch.2.1 (ih fb s1 t1 _ _ _ _ la lb hch.2.2)
      · exact hch.elim
      · exact hch.elim
      · exact hch.elim
      · exact ItemsSim.nil
      · rw [ea, eb] at hsk; cases hsk.nil_left
      · exact hch.elim
      · rw [ea, eb] at hsk; cases hsk.nil_right
      · rw [ea, eb] at hsk
        by_cases hpc : Plain c
        · obtain ⟨b', e, hr⟩ := hsk.head_plain hpc
          cases e
          refine ItemsSim.bad hpc (ih fb _ _ _ _ _ _ la lb ?_)
          rw [badLexeme_rest, badLexeme_rest, ea, eb]
          simpa using hr
        · refine ItemsSim.stray hpc fun hpd => ?_
          obtain ⟨a', e, _⟩ := hsk.symm.head_plain hpd
          cases e
          exact hpc hpd

/-- **The token stream is the same in every spelling**: two texts that read as the same characters (in particular a
text and any safe respelling of it, `C12.respelled_reads_same`) are lexed into items that correspond one to one. -/
theorem lex_readEq (u : Uni) (a b : List Char) (ra rb : LexResult) (ha : lex u a = .ok ra) (hb : lex u b = .ok rb)
    (h : ReadEq a b) : ItemsSim ra.items rb.items := by
  unfold lex at ha hb
  cases hia : lexItems u (a.length + 1) { rest := a } with
  | error e => rw [hia] at ha; cases ha
  | ok pa =>
    cases hib : lexItems u (b.length + 1) { rest := b } with
    | error e => rw [hib] at hb; cases hb
    | ok pb =>
      rw [hia] at ha
      rw [hib] at hb
      obtain ⟨ia, sa⟩ := pa
      obtain ⟨ib, sb⟩ := pb
      simp only [Except.ok.injEq] at ha hb
      subst ha; subst hb
      exact lexItems_readEq u _ _ _ _ ia ib sa sb hia hib h

end Norm
