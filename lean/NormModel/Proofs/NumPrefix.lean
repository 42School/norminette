/-
The numeric matchers (`re.match` of the four literal patterns on the raw text) return a text that is a
prefix of the raw input and consists of characters that are neither a newline nor a tab.  Needed to place
the diagnostics of numeric literals: `col + k` is then the visual column of the k-th raw character.
-/
import NormModel.Proofs.LexPop
import NormModel.Proofs.Chars
import NormModel.Proofs.FloatLogic
namespace Norm
open Spec

/-- `e` is a prefix of `l`, all of whose characters are clean -/
def CPrefix (e l : List Char) : Prop := e <+: l ∧ ∀ c ∈ e, cleanChar c

theorem CPrefix.nil (l : List Char) : CPrefix [] l := ⟨List.nil_prefix, by simp⟩

theorem mem_takeWhile_sat {q : Char → Bool} {l : List Char} {c : Char} (h : c ∈ l.takeWhile q) : q c = true :=
  List.all_eq_true.mp List.all_takeWhile c h

theorem CPrefix.takeWhile {q : Char → Bool} (hq : ∀ c, q c = true → cleanChar c) (l : List Char) :
    CPrefix (l.takeWhile q) l :=
  ⟨List.takeWhile_prefix _, fun c hc => hq c (mem_takeWhile_sat hc)⟩

theorem CPrefix.cons {c : Char} {e tl : List Char} (hc : cleanChar c) (h : CPrefix e tl) : CPrefix (c :: e) (c :: tl) := by
  obtain ⟨⟨r, hr⟩, hcl⟩ := h
  refine ⟨⟨r, by simp [hr]⟩, ?_⟩
  intro x hx
  simp only [List.mem_cons] at hx
  rcases hx with rfl | hx
  · exact hc
  · exact hcl x hx

theorem CPrefix.append {a b l : List Char} (ha : CPrefix a l) (hb : CPrefix b (l.drop a.length)) : CPrefix (a ++ b) l := by
  obtain ⟨⟨r, hr⟩, hca⟩ := ha
  obtain ⟨⟨r', hr'⟩, hcb⟩ := hb
  subst hr
  simp only [List.drop_left] at hr'
  subst hr'
  refine ⟨⟨r', by simp⟩, ?_⟩
  intro x hx
  rcases List.mem_append.mp hx with h | h
  · exact hca x h
  · exact hcb x h

theorem CPrefix.clean {e l : List Char} (h : CPrefix e l) : Clean e := h.2

theorem CPrefix.take_eq {e l : List Char} (h : CPrefix e l) : l.take e.length = e := by
  obtain ⟨⟨r, hr⟩, _⟩ := h
  subst hr; simp

theorem CPrefix.length_le {e l : List Char} (h : CPrefix e l) : e.length ≤ l.length := h.1.length_le

theorem drop_takeWhile_len (q : Char → Bool) (l : List Char) : l.drop (l.takeWhile q).length = l.dropWhile q := by
  induction l with
  | nil => rfl
  | cons x xs ih =>
    by_cases h : q x = true
    · simp [h, ih]
    · simp [h]

theorem take_takeWhile_len (q : Char → Bool) (l : List Char) : l.take (l.takeWhile q).length = l.takeWhile q := by
  induction l with
  | nil => rfl
  | cons x xs ih =>
    by_cases h : q x = true
    · simp [h, ih]
    · simp [h]

/-! ### the character classes are clean -/

theorem isW_clean (u : Uni) {c : Char} (h : u.isW c = true) : cleanChar c :=
  ⟨ne_of_isW u h (by decide), ne_of_isW u h (by decide)⟩
theorem isD_clean (u : Uni) {c : Char} (h : u.isD c = true) : cleanChar c := isW_clean u (isD_isW u h)
theorem isH_clean (u : Uni) {c : Char} (h : u.isH c = true) : cleanChar c := isW_clean u (isH_isW u h)

theorem sign_clean {c : Char} (h : (c == '+' || c == '-') = true) : cleanChar c := by
  simp only [Bool.or_eq_true, beq_iff_eq] at h
  rcases h with rfl | rfl <;> exact ⟨by decide, by decide⟩

theorem isE_clean {c : Char} (h : isE c = true) : cleanChar c := by
  unfold isE at h; simp only [Bool.or_eq_true, beq_iff_eq] at h
  rcases h with rfl | rfl <;> exact ⟨by decide, by decide⟩
theorem isP_clean {c : Char} (h : isP c = true) : cleanChar c := by
  unfold isP at h; simp only [Bool.or_eq_true, beq_iff_eq] at h
  rcases h with rfl | rfl <;> exact ⟨by decide, by decide⟩
theorem isXc_clean {c : Char} (h : isXc c = true) : cleanChar c := by
  unfold isXc at h; simp only [Bool.or_eq_true, beq_iff_eq] at h
  rcases h with rfl | rfl <;> exact ⟨by decide, by decide⟩
theorem isBc_clean {c : Char} (h : isBc c = true) : cleanChar c := by
  unfold isBc at h; simp only [Bool.or_eq_true, beq_iff_eq] at h
  rcases h with rfl | rfl <;> exact ⟨by decide, by decide⟩
theorem dot_clean : cleanChar '.' := ⟨by decide, by decide⟩

theorem dotOr_clean {q : Char → Bool} (hq : ∀ c, q c = true → cleanChar c) :
    ∀ c, (c == '.' || q c) = true → cleanChar c := by
  intro c h
  simp only [Bool.or_eq_true, beq_iff_eq] at h
  rcases h with rfl | h
  · exact dot_clean
  · exact hq c h

theorem orDot_clean {q : Char → Bool} (hq : ∀ c, q c = true → cleanChar c) :
    ∀ c, (q c || c == '.') = true → cleanChar c := by
  intro c h
  simp only [Bool.or_eq_true, beq_iff_eq] at h
  rcases h with h | rfl
  · exact hq c h
  · exact dot_clean

/-! ### the exponent group -/

/-- the optional tail of the third alternative is a `takeWhile` of clean characters -/
def CTail (tail : List Char → Nat) : Prop :=
  ∃ q : Char → Bool, (∀ c, q c = true → cleanChar c) ∧ ∀ l, tail l = (l.takeWhile q).length

theorem tailDec_ctail (u : Uni) : CTail (tailDec u) :=
  ⟨fun c => c == '.' || u.isD c, dotOr_clean (fun _ h => isD_clean u h), fun _ => rfl⟩
theorem tailHex_ctail (u : Uni) : CTail (tailHex u) :=
  ⟨fun c => c == '.' || u.isH c, dotOr_clean (fun _ h => isH_clean u h), fun _ => rfl⟩

theorem expIter_pre (isL : Char → Bool) (hL : ∀ c, isL c = true → cleanChar c) (tail : List Char → Nat) (ht : CTail tail)
    (fuel : Nat) (l : List Char) : CPrefix (expIter isL tail fuel l) l := by
  obtain ⟨q, hq, hqt⟩ := ht
  induction fuel generalizing l with
  | zero => exact CPrefix.nil _
  | succ fuel ih =>
    unfold expIter
    cases l with
    | nil => exact CPrefix.nil _
    | cons c tl =>
      simp only
      by_cases hc : isL c = true
      · simp only [hc, ↓reduceIte]
        have key : ∀ (sign tl1 : List Char), tl = sign ++ tl1 → (∀ x ∈ sign, cleanChar x) →
            CPrefix (c :: sign ++ tl1.take (tail tl1) ++ expIter isL tail fuel (tl1.drop (tail tl1))) (c :: tl) := by
          intro sign tl1 e hs
          have h1 : CPrefix sign tl := ⟨⟨tl1, e.symm⟩, hs⟩
          have h2 : CPrefix (tl1.take (tail tl1)) (tl.drop sign.length) := by
            rw [e, List.drop_left, hqt, take_takeWhile_len]
            exact CPrefix.takeWhile hq tl1
          have h3 : CPrefix (expIter isL tail fuel (tl1.drop (tail tl1))) (tl.drop (sign ++ tl1.take (tail tl1)).length) := by
            have : tl.drop (sign ++ tl1.take (tail tl1)).length = tl1.drop (tail tl1) := by
              rw [e, List.length_append, ← List.drop_drop, List.drop_left, hqt, take_takeWhile_len]
            rw [this]; exact ih _
          have := CPrefix.cons (hL c hc) ((h1.append h2).append h3)
          simpa [List.append_assoc] using this
        cases tl with
        | nil => exact key [] [] rfl (by simp)
        | cons s r =>
          simp only
          by_cases hsg : (s == '+' || s == '-') = true
          · simp only [hsg, ↓reduceIte]
            exact key [s] r rfl (by intro x hx; simp only [List.mem_singleton] at hx; subst hx; exact sign_clean hsg)
          · simp only [hsg, Bool.false_eq_true, ↓reduceIte]
            exact key [] (s :: r) rfl (by simp)
      · simp only [hc, Bool.false_eq_true, ↓reduceIte]
        exact CPrefix.nil _

theorem matchExp_pre (isL isD : Char → Bool) (hL : ∀ c, isL c = true → cleanChar c) (hD : ∀ c, isD c = true → cleanChar c)
    (tail : List Char → Nat) (ht : CTail tail) (l : List Char) : CPrefix (matchExp isL isD tail l) l := by
  unfold matchExp spanP
  simp only
  by_cases hls : (l.takeWhile isL).isEmpty = true
  · simp only [hls, ↓reduceIte]; exact CPrefix.nil _
  · simp only [hls, Bool.false_eq_true, ↓reduceIte]
    have h1 : CPrefix (l.takeWhile isL) l := CPrefix.takeWhile hL l
    have fallback : CPrefix (if (!((l.dropWhile isL).takeWhile isD).isEmpty) = true then l.takeWhile isL ++ (l.dropWhile isL).takeWhile isD
        else expIter isL tail (l.length + 1) l) l := by
      split
      · apply h1.append
        rw [drop_takeWhile_len]
        exact CPrefix.takeWhile hD _
      · exact expIter_pre isL hL tail ht _ l
    cases hafter : l.dropWhile isL with
    | nil => simp only; rw [hafter] at fallback; exact fallback
    | cons s r =>
      simp only
      by_cases hsg : (s == '+' || s == '-') = true
      · simp only [hsg, ↓reduceIte]
        by_cases hds : (r.takeWhile isD).isEmpty = true
        · simp only [hds, ↓reduceIte]; rw [hafter] at fallback; exact fallback
        · simp only [hds, Bool.false_eq_true, ↓reduceIte]
          rw [List.append_assoc]
          apply h1.append
          rw [drop_takeWhile_len, hafter]
          exact CPrefix.cons (sign_clean hsg) (CPrefix.takeWhile hD r)
      · simp only [hsg, Bool.false_eq_true, ↓reduceIte]; rw [hafter] at fallback; exact fallback

theorem floatSuffix_pre (u : Uni) (l : List Char) : CPrefix (floatSuffix u l) l :=
  CPrefix.takeWhile (orDot_clean (fun _ h => isW_clean u h)) l

/-! ### the three floating patterns -/

theorem matchFloatExp_pre {u : Uni} {src : List Char} {m : FloatMatch} (h : matchFloatExp u src = some m) :
    CPrefix (m.const ++ m.exp ++ m.suf) src := by
  unfold matchFloatExp at h
  simp only [spanP] at h
  by_cases h1 : (List.takeWhile u.isD src).isEmpty = true
  · simp [h1] at h
  · by_cases h2 : (matchExp isE u.isD (tailDec u) (List.dropWhile u.isD src)).isEmpty = true
    · simp [h1, h2] at h
    · simp only [h1, h2, Bool.false_eq_true, ↓reduceIte, Option.some.injEq] at h
      subst h
      simp only
      have a := CPrefix.takeWhile (fun c h => isD_clean u h) src
      have b : CPrefix (matchExp isE u.isD (tailDec u) (src.dropWhile u.isD)) (src.drop (src.takeWhile u.isD).length) := by
        rw [drop_takeWhile_len]
        exact matchExp_pre isE u.isD (fun c h => isE_clean h) (fun c h => isD_clean u h) (tailDec u) (tailDec_ctail u) _
      have ab := a.append b
      apply ab.append
      rw [List.length_append, ← List.drop_drop, drop_takeWhile_len]
      exact floatSuffix_pre u _

theorem fracConst_pre {u : Uni} {src c rest : List Char}
    (h : (match src.dropWhile u.isD with
      | '.' :: r =>
        let fs := r.takeWhile u.isD
        if !fs.isEmpty then some (src.takeWhile u.isD ++ '.' :: fs, r.drop fs.length)
        else if !(src.takeWhile u.isD).isEmpty then some (src.takeWhile u.isD ++ ['.'], r)
        else none
      | _ => none) = some (c, rest)) : CPrefix c src ∧ rest = src.drop c.length := by
  have a := CPrefix.takeWhile (fun c h => isD_clean u h) src
  split at h
  · rename_i r hr
    simp only at h
    have hd : src.drop (src.takeWhile u.isD).length = '.' :: r := by rw [drop_takeWhile_len, hr]
    split at h
    · simp only [Option.some.injEq, Prod.mk.injEq] at h
      obtain ⟨rfl, rfl⟩ := h
      refine ⟨a.append (by rw [hd]; exact CPrefix.cons dot_clean (CPrefix.takeWhile (fun c h => isD_clean u h) r)), ?_⟩
      rw [List.length_append, ← List.drop_drop, hd]
      simp
    · split at h
      · simp only [Option.some.injEq, Prod.mk.injEq] at h
        obtain ⟨rfl, rfl⟩ := h
        refine ⟨a.append (by rw [hd]; exact CPrefix.cons dot_clean (CPrefix.nil _)), ?_⟩
        rw [List.length_append, ← List.drop_drop, hd]
        simp
      · cases h
  · cases h

theorem matchFloatFrac_pre {u : Uni} {src : List Char} {m : FloatMatch} (h : matchFloatFrac u src = some m) :
    CPrefix (m.const ++ m.exp ++ m.suf) src := by
  unfold matchFloatFrac at h
  simp only [spanP] at h
  split at h
  · cases h
  · rename_i c rest hc
    simp only [Option.some.injEq] at h
    subst h
    simp only
    obtain ⟨pc, rfl⟩ := fracConst_pre hc
    have b := matchExp_pre isE u.isD (fun c h => isE_clean h) (fun c h => isD_clean u h) (tailDec u) (tailDec_ctail u) (src.drop c.length)
    apply (pc.append b).append
    rw [List.length_append, ← List.drop_drop]
    exact floatSuffix_pre u _

theorem hexMantissa_pre {u : Uni} {a1 mant a3 : List Char} (h : hexMantissa u a1 = some (mant, a3)) :
    CPrefix mant a1 ∧ a3 = a1.drop mant.length := by
  have a := CPrefix.takeWhile (fun c h => isH_clean u h) a1
  unfold hexMantissa at h
  split at h
  · split at h
    · rename_i r _
      split at h
      · cases h
      · simp only [Option.some.injEq, Prod.mk.injEq] at h
        obtain ⟨rfl, rfl⟩ := h
        exact ⟨CPrefix.cons dot_clean (CPrefix.takeWhile (fun c h => isH_clean u h) r), by simp⟩
    · cases h
  · rename_i hne
    split at h
    · rename_i r hr
      simp only [Option.some.injEq, Prod.mk.injEq] at h
      obtain ⟨rfl, rfl⟩ := h
      have hd : a1.drop (a1.takeWhile u.isH).length = '.' :: r := by rw [drop_takeWhile_len, hr]
      refine ⟨a.append (by rw [hd]; exact CPrefix.cons dot_clean (CPrefix.takeWhile (fun c h => isH_clean u h) r)), ?_⟩
      rw [List.length_append, ← List.drop_drop, hd]
      simp [drop_takeWhile_len]
    · simp only [Option.some.injEq, Prod.mk.injEq] at h
      obtain ⟨rfl, rfl⟩ := h
      exact ⟨a, (drop_takeWhile_len _ _).symm⟩

theorem matchFloatHex_pre {u : Uni} {src : List Char} {m : FloatMatch} (h : matchFloatHex u src = some m) :
    CPrefix (m.const ++ m.exp ++ m.suf) src := by
  unfold matchFloatHex at h
  split at h
  · rename_i tl
    split at h
    · cases h
    · split at h
      · cases h
      · rename_i mant a3 hm
        simp only [Option.some.injEq] at h
        subst h
        simp only
        obtain ⟨pm, rfl⟩ := hexMantissa_pre hm
        have hx : ∀ c, (c == 'x' || c == 'X') = true → cleanChar c := fun c h => isXc_clean (by simpa [isXc] using h)
        have ax := CPrefix.takeWhile hx tl
        rw [← drop_takeWhile_len] at pm
        have c1 : CPrefix ('0' :: (tl.takeWhile (fun c => c == 'x' || c == 'X') ++ mant)) ('0' :: tl) :=
          CPrefix.cons ⟨by decide, by decide⟩ (ax.append pm)
        have e1 : ('0' :: tl).drop ('0' :: (tl.takeWhile (fun c => c == 'x' || c == 'X') ++ mant)).length =
            (tl.dropWhile (fun c => c == 'x' || c == 'X')).drop mant.length := by
          simp only [List.length_cons, List.drop_succ_cons, List.length_append]
          rw [← List.drop_drop, drop_takeWhile_len]
        have b : CPrefix (matchExp isP u.isH (tailHex u) ((tl.dropWhile (fun c => c == 'x' || c == 'X')).drop mant.length))
            (('0' :: tl).drop ('0' :: (tl.takeWhile (fun c => c == 'x' || c == 'X') ++ mant)).length) := by
          rw [e1]
          exact matchExp_pre isP u.isH (fun c h => isP_clean h) (fun c h => isH_clean u h) (tailHex u) (tailHex_ctail u) _
        have cb := c1.append b
        have : '0' :: tl.takeWhile (fun c => c == 'x' || c == 'X') ++ mant = '0' :: (tl.takeWhile (fun c => c == 'x' || c == 'X') ++ mant) := rfl
        rw [this]
        apply cb.append
        rw [List.length_append, ← List.drop_drop, e1]
        exact floatSuffix_pre u _
  · cases h

/-- every match of `floatLogic` is a clean prefix of the raw input -/
theorem floatLogic_pre {u : Uni} {line col : Nat} {src : List Char} {m : FloatMatch} {d : Option Diag}
    (h : floatLogic u line col src = .tok m d) : CPrefix (m.const ++ m.exp ++ m.suf) src := by
  rcases floatSel_cases (floatLogic_tok_sel h).1 with h | h | h
  · exact matchFloatExp_pre h
  · exact matchFloatFrac_pre h
  · exact matchFloatHex_pre h

/-! ### the integer pattern -/

theorem intSuffix_pre (u : Uni) (last : Option Char) (after : List Char) : CPrefix (intSuffix u last after) after := by
  unfold intSuffix
  split
  · apply CPrefix.takeWhile
    intro c h
    simp only [Bool.or_eq_true, beq_iff_eq] at h
    rcases h with ((h | rfl) | rfl) | rfl
    · exact isW_clean u h
    · exact ⟨by decide, by decide⟩
    · exact ⟨by decide, by decide⟩
    · exact dot_clean
  · split
    · rename_i c tl
      split
      · rename_i hc
        exact CPrefix.cons (isW_clean u hc) (CPrefix.takeWhile (orDot_clean (fun _ h => isW_clean u h)) tl)
      · exact CPrefix.nil _
    · exact CPrefix.nil _

theorem intFin_pre {u : Uni} {src pre : List Char} {q : Char → Bool} {m : IntMatch} (hq : ∀ c, q c = true → cleanChar c)
    (hp : CPrefix pre src)
    (h : intFin u pre ((src.drop pre.length).takeWhile q) ((src.drop pre.length).dropWhile q) = some m) :
    CPrefix (m.pre ++ m.const ++ m.suf) src := by
  unfold intFin at h
  split at h
  · cases h
  · simp only [Option.some.injEq] at h
    subst h
    simp only
    have b := CPrefix.takeWhile hq (src.drop pre.length)
    apply (hp.append b).append
    rw [List.length_append, ← List.drop_drop, drop_takeWhile_len]
    exact intSuffix_pre u _ _

theorem matchInt_pre {u : Uni} {src : List Char} {m : IntMatch} (h : matchInt u src = some m) :
    CPrefix (m.pre ++ m.const ++ m.suf) src := by
  have zero_clean : cleanChar '0' := ⟨by decide, by decide⟩
  have plain : ∀ {m}, intFin u [] (src.takeWhile u.isD) (src.dropWhile u.isD) = some m → CPrefix (m.pre ++ m.const ++ m.suf) src := by
    intro m hm
    exact intFin_pre (src := src) (pre := []) (fun c h => isD_clean u h) (CPrefix.nil _) (by simpa using hm)
  unfold matchInt at h
  split at h
  · cases h
  · rename_i tl
    split at h
    · rename_i m1 h1
      simp only [Option.some.injEq] at h; subst h
      unfold intAltX at h1
      have ax := CPrefix.takeWhile (fun c h => isXc_clean h) tl
      split at h1
      · cases h1
      · rename_i x hx
        rw [hx] at ax
        have p0 : CPrefix ['0', x] ('0' :: tl) := CPrefix.cons zero_clean ax
        have hdrop : ('0' :: tl).drop ['0', x].length = tl.dropWhile isXc := by
          have := drop_takeWhile_len isXc tl
          rw [hx] at this
          simpa using this
        exact intFin_pre (fun c h => isH_clean u h) p0 (by rw [hdrop]; exact h1)
      · rename_i xs _ _
        generalize hxs : tl.takeWhile isXc = ys at h1 ax
        have p0 : CPrefix ('0' :: ys) ('0' :: tl) := CPrefix.cons zero_clean ax
        have hdrop : ('0' :: tl).drop ('0' :: ys).length = tl.dropWhile isXc := by
          have := drop_takeWhile_len isXc tl
          rw [hxs] at this
          simpa using this
        exact intFin_pre (fun c h => isD_clean u h) p0 (by rw [hdrop]; exact h1)
    · split at h
      · rename_i m2 h2
        simp only [Option.some.injEq] at h; subst h
        unfold intAltB at h2
        have ab := CPrefix.takeWhile (fun c h => isBc_clean h) tl
        split at h2
        · cases h2
        · generalize hbs : tl.takeWhile isBc = ys at h2 ab
          have p0 : CPrefix ('0' :: ys) ('0' :: tl) := CPrefix.cons zero_clean ab
          have hdrop : ('0' :: tl).drop ('0' :: ys).length = tl.dropWhile isBc := by
            have := drop_takeWhile_len isBc tl
            rw [hbs] at this
            simpa using this
          exact intFin_pre (fun c h => isD_clean u h) p0 (by rw [hdrop]; exact h2)
      · split at h
        · rename_i m3 h3
          simp only [Option.some.injEq] at h; subst h
          have p0 : CPrefix ['0'] ('0' :: tl) := CPrefix.cons zero_clean (CPrefix.nil _)
          exact intFin_pre (fun c h => isD_clean u h) p0 (by simpa using h3)
        · exact plain h
  · exact plain h

end Norm
