/- Inside a literal or a comment, plain characters are consumed one by one, each advancing
one column and producing no diagnostic: what the lexer does there depends on the *length* of
the text only (C17), and the same holds for identifier characters (C18). -/
import NormModel.Proofs.LiteralsLex
namespace Norm
open Spec

/-- a plain character that is neither newline nor tab -/
def OpaqueChar (c : Char) : Prop := plainChar c ∧ c ≠ '\n' ∧ c ≠ '\t'

theorem opaque_of_word {c : Char} (h : c ∈ wordChars) : OpaqueChar c :=
  have ⟨a, b, c', d, e, f, g⟩ := word_plain c h
  ⟨⟨a, b, c', d, e⟩, f, g⟩

/-- one `pop` on an opaque character: the full result, whatever the flags -/
theorem popOne_opaque (us ue : Bool) (s : LexSt) (c : Char) (tl : List Char) (hr : s.rest = c :: tl)
    (hc : OpaqueChar c) :
    popOne us ue s = ({ s with rest := tl, pos := s.pos + 1, col := s.col + 1 }, some [c]) := by
  obtain ⟨⟨h1, h2, h3, h4, h5⟩, hn, ht⟩ := hc
  have hpk : peek1 s.rest 0 = some (c, 1) := by rw [hr]; exact peek1_raw h1 h2 h3 h4
  have hs : spliceLoop (s.rest.length + 1) s = (s, some (c, 1)) := by
    unfold spliceLoop
    simp only [hpk]
    have : (c != '\\') = true := by simp [h5]
    simp [this]
  unfold popOne
  rw [hs]
  simp only
  have he : escOf ue s c 1 = ([c], 1, [], 0) := by
    unfold escOf
    have : (c == '\\') = false := by simp [h5]
    simp [this]
  rw [he]
  unfold finishPop
  have e1 : ([c] == ['\n']) = false := by simp [hn]
  have e2 : ([c] == ['\t']) = false := by simp [ht]
  simp only [e1, e2, Bool.false_eq_true, ↓reduceIte, List.append_nil, advance, hr, List.drop_succ_cons, List.drop_zero]

/-- the state after consuming `n` opaque characters -/
def shiftCols (s : LexSt) (n : Nat) (tl : List Char) : LexSt :=
  { s with rest := tl, pos := s.pos + n, col := s.col + n }

/-- **String bodies are opaque**: a run of opaque characters other than `"` followed by the
closing quote is swallowed character by character; the resulting state, diagnostics and the
*shape* of the value depend on the number of characters only. -/
theorem strLoop_opaque (body tl : List Char) (s : LexSt) (v : List Char) (fuel : Nat)
    (hr : s.rest = body ++ '"' :: tl) (hb : ∀ c ∈ body, OpaqueChar c ∧ c ≠ '"') (hf : body.length + 1 ≤ fuel) :
    strLoop fuel s v = (shiftCols s (body.length + 1) tl, v ++ body ++ ['"'], false) := by
  induction body generalizing s v fuel with
  | nil =>
    cases fuel with
    | zero => omega
    | succ fuel =>
      unfold strLoop
      have hq : OpaqueChar '"' := by unfold OpaqueChar plainChar; decide
      have hpk : peek1 s.rest 0 = some ('"', 1) := by
        rw [hr]; exact peek1_raw (by decide) (by decide) (by decide) (by decide)
      simp only [hpk]
      rw [popOne_opaque false true s '"' tl (by simpa using hr) hq]
      simp [shiftCols]
  | cons c cs ih =>
    cases fuel with
    | zero => simp at hf
    | succ fuel =>
      obtain ⟨hc, hcq⟩ := hb c (by simp)
      unfold strLoop
      have hpk : peek1 s.rest 0 = some (c, 1) := by
        rw [hr]; exact peek1_raw hc.1.1 hc.1.2.1 hc.1.2.2.1 hc.1.2.2.2.1
      simp only [hpk]
      rw [popOne_opaque false true s c (cs ++ '"' :: tl) (by simpa using hr) hc]
      simp only
      have hne : ([c] == ['"']) = false := by simp [hcq]
      simp only [hne, Bool.false_eq_true, ↓reduceIte]
      rw [ih _ _ fuel rfl (fun d hd => hb d (by simp [hd])) (by simp at hf; omega)]
      simp [shiftCols]
      omega

/-- **Identifier characters are opaque**: the identifier loop consumes a run of identifier
characters one column each; where it stops and what it records depends on the length only. -/
theorem identLoop_opaque (body tl : List Char) (s : LexSt) (v : List Char) (fuel : Nat)
    (hr : s.rest = body ++ tl) (hb : ∀ c ∈ body, isIdChar c = true)
    (hstop : ∀ c, tl.head? = some c → isIdChar c = false) (hf : body.length + 1 ≤ fuel) :
    identLoop fuel s v = (shiftCols s body.length tl, v ++ body) := by
  induction body generalizing s v fuel with
  | nil =>
    cases fuel with
    | zero => omega
    | succ fuel =>
      unfold identLoop
      simp only [List.nil_append] at hr
      cases htl : tl with
      | nil => rw [hr, htl]; simp [shiftCols]; cases s; simp_all
      | cons d ds =>
        rw [hr, htl]
        have := hstop d (by rw [htl]; rfl)
        simp only [this, Bool.false_eq_true, ↓reduceIte]
        simp [shiftCols]; cases s; simp_all
  | cons c cs ih =>
    cases fuel with
    | zero => simp at hf
    | succ fuel =>
      have hc := hb c (by simp)
      unfold identLoop
      rw [hr]
      simp only [List.cons_append, hc, ↓reduceIte]
      rw [popOne_opaque false false s c (cs ++ tl) (by simpa using hr) (opaque_of_word (isIdChar_iff.mp hc))]
      simp only
      rw [ih _ _ fuel rfl (fun d hd => hb d (by simp [hd])) (by simp at hf; omega)]
      simp [shiftCols]
      omega

end Norm
