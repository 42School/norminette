/- `floatLogic` in two steps: which of the three patterns matches (`floatSel`), and what is reported about the
match (`floatVerdict`); the equations of each step, so that no later proof unfolds `floatLogic` itself. -/
import NormModel.Model.Lexer
namespace Norm

/-- which of the three patterns matched, and what -/
def floatSel (u : Uni) (src : List Char) : Option FloatMatch :=
  match matchFloatExp u src with
  | some m => some m
  | none => match matchFloatFrac u src with
    | some m => some m
    | none => matchFloatHex u src

/-- what `parse_float_literal` makes of a match -/
def floatVerdict (u : Uni) (line col : Nat) (m : FloatMatch) : FloatRes :=
  let suffix := m.suf.length
  let column := col + m.const.length
  let badhex := stripChars (Generated.hexadecimalDigits.toList ++ ['.']) m.const
  if m.kind != .hexadecimal && !m.exp.isEmpty && !goodExponent u m.exp then
    .tok m (some (mkDiag "BAD_EXPONENT" .error [⟨line, column, some (m.exp.length + suffix), none⟩]))
  else if m.kind == .hexadecimal && !m.const.contains '.' && m.exp.isEmpty then .noMatch
  else if m.kind == .hexadecimal && !(badhex == ['x'] || badhex == ['X']) then
    .tok m (some (mkDiag "MULTIPLE_X" .error [⟨line, column - m.const.length + 1, some badhex.length, none⟩]))
  else if m.kind == .hexadecimal && !m.exp.isEmpty && !goodBinExponent u m.exp then
    .tok m (some (mkDiag "BAD_EXPONENT" .error [⟨line, column, some (m.exp.length + suffix), none⟩]))
  else if m.const.count '.' == 1 && m.suf.count '.' > 0 then
    .tok m (some (mkDiag "MULTIPLE_DOTS" .error [⟨line, column, some (m.exp.length + suffix), none⟩]))
  else if !Generated.floatSuffixes.contains (String.ofList m.suf) then
    .tok m (some (mkDiag "BAD_FLOAT_SUFFIX" .error [⟨line, column + m.exp.length, some suffix, none⟩]))
  else .tok m none

/-- the verdict without its position: `none` = not a floating constant after all, `some none` = nothing to report,
`some (some (name, off, len))` = the diagnostic `name` over `len` characters from offset `off` of the token -/
def floatReport (u : Uni) (m : FloatMatch) : Option (Option (String × Nat × Nat)) :=
  let badhex := stripChars (Generated.hexadecimalDigits.toList ++ ['.']) m.const
  if m.kind != .hexadecimal && !m.exp.isEmpty && !goodExponent u m.exp then
    some (some ("BAD_EXPONENT", m.const.length, m.exp.length + m.suf.length))
  else if m.kind == .hexadecimal && !m.const.contains '.' && m.exp.isEmpty then none
  else if m.kind == .hexadecimal && !(badhex == ['x'] || badhex == ['X']) then some (some ("MULTIPLE_X", 1, badhex.length))
  else if m.kind == .hexadecimal && !m.exp.isEmpty && !goodBinExponent u m.exp then
    some (some ("BAD_EXPONENT", m.const.length, m.exp.length + m.suf.length))
  else if m.const.count '.' == 1 && m.suf.count '.' > 0 then
    some (some ("MULTIPLE_DOTS", m.const.length, m.exp.length + m.suf.length))
  else if !Generated.floatSuffixes.contains (String.ofList m.suf) then
    some (some ("BAD_FLOAT_SUFFIX", m.const.length + m.exp.length, m.suf.length))
  else some none

/-- the verdict from the report: the diagnostic is placed at (line, col + off) -/
def FloatRes.ofReport (line col : Nat) (m : FloatMatch) : Option (Option (String × Nat × Nat)) → FloatRes
  | none => .noMatch
  | some r => .tok m (r.map fun r => mkDiag r.1 .error [⟨line, col + r.2.1, some r.2.2, none⟩])

theorem floatVerdict_eq (u : Uni) (line col : Nat) (m : FloatMatch) :
    floatVerdict u line col m = .ofReport line col m (floatReport u m) := by
  unfold floatVerdict floatReport
  simp only [apply_ite (FloatRes.ofReport line col m)]
  simp only [FloatRes.ofReport, Option.map, Nat.add_sub_cancel, Nat.add_assoc]

theorem floatLogic_eq (u : Uni) (line col : Nat) (src : List Char) :
    floatLogic u line col src =
      match floatSel u src with
      | none => .noMatch
      | some m => floatVerdict u line col m := rfl

theorem floatLogic_of_sel {u : Uni} {src : List Char} {m : FloatMatch} (h : floatSel u src = some m) (line col : Nat) :
    floatLogic u line col src = floatVerdict u line col m := by rw [floatLogic_eq, h]

theorem floatLogic_of_sel_none {u : Uni} {src : List Char} (h : floatSel u src = none) (line col : Nat) :
    floatLogic u line col src = .noMatch := by rw [floatLogic_eq, h]

/-- the match that `floatLogic` returns is the one selected, and its diagnostic is the report, placed -/
theorem floatLogic_tok_sel {u : Uni} {line col : Nat} {src : List Char} {m : FloatMatch} {d : Option Diag}
    (h : floatLogic u line col src = .tok m d) :
    floatSel u src = some m ∧ ∃ r, floatReport u m = some r ∧
      d = r.map fun r => mkDiag r.1 .error [⟨line, col + r.2.1, some r.2.2, none⟩] := by
  rw [floatLogic_eq] at h
  cases hs : floatSel u src with
  | none => rw [hs] at h; cases h
  | some m' =>
    simp only [hs, floatVerdict_eq] at h
    cases hr : floatReport u m' with
    | none => rw [hr] at h; cases h
    | some r => rw [hr] at h; cases h; exact ⟨rfl, r, hr, rfl⟩

theorem floatSel_cases {u : Uni} {src : List Char} {m : FloatMatch} (h : floatSel u src = some m) :
    matchFloatExp u src = some m ∨ matchFloatFrac u src = some m ∨ matchFloatHex u src = some m := by
  unfold floatSel at h
  split at h
  · exact .inl (by simpa using h ▸ ‹_›)
  · split at h
    · exact .inr (.inl (by simpa using h ▸ ‹_›))
    · exact .inr (.inr h)

/-! ### the verdict, branch by branch -/

section verdict
variable (u : Uni) (line col : Nat) {m : FloatMatch}

theorem floatVerdict_badExp (hk : m.kind ≠ .hexadecimal) (he : m.exp ≠ []) (hg : goodExponent u m.exp = false) :
    floatVerdict u line col m = .tok m (some (mkDiag "BAD_EXPONENT" .error
      [⟨line, col + m.const.length, some (m.exp.length + m.suf.length), none⟩])) := by
  simp [floatVerdict, hk, he, hg]

theorem floatVerdict_dots (hk : m.kind ≠ .hexadecimal) (he : m.exp = [] ∨ goodExponent u m.exp = true)
    (hc : m.const.count '.' = 1) (hs : 0 < m.suf.count '.') :
    floatVerdict u line col m = .tok m (some (mkDiag "MULTIPLE_DOTS" .error
      [⟨line, col + m.const.length, some (m.exp.length + m.suf.length), none⟩])) := by
  rcases he with he | he <;> simp [floatVerdict, hk, he, hc, hs]

theorem floatVerdict_badSuffix (hk : m.kind ≠ .hexadecimal) (he : m.exp = [] ∨ goodExponent u m.exp = true)
    (hs : m.suf.count '.' = 0) (ht : Generated.floatSuffixes.contains (String.ofList m.suf) = false) :
    floatVerdict u line col m = .tok m (some (mkDiag "BAD_FLOAT_SUFFIX" .error
      [⟨line, col + m.const.length + m.exp.length, some m.suf.length, none⟩])) := by
  have ht : String.ofList m.suf ∉ Generated.floatSuffixes := by simpa using ht
  rcases he with he | he <;> simp [floatVerdict, hk, he, hs, ht]

theorem floatVerdict_ok (hk : m.kind ≠ .hexadecimal) (he : m.exp = [] ∨ goodExponent u m.exp = true)
    (hs : m.suf.count '.' = 0) (ht : Generated.floatSuffixes.contains (String.ofList m.suf) = true) :
    floatVerdict u line col m = .tok m none := by
  have ht : String.ofList m.suf ∈ Generated.floatSuffixes := by simpa using ht
  rcases he with he | he <;> simp [floatVerdict, hk, he, hs, ht]

/-- `0x1f`: the hexadecimal pattern matches an integer, which is left to the integer parser -/
theorem floatVerdict_hexInt (hk : m.kind = .hexadecimal) (hc : m.const.contains '.' = false) (he : m.exp = []) :
    floatVerdict u line col m = .noMatch := by
  have hc : '.' ∉ m.const := by simpa using hc
  simp [floatVerdict, hk, he, hc]

theorem floatVerdict_multX (hk : m.kind = .hexadecimal) (he : m.exp ≠ []) {xs : List Char}
    (hx : stripChars (Generated.hexadecimalDigits.toList ++ ['.']) m.const = xs) (h2 : 2 ≤ xs.length) :
    floatVerdict u line col m = .tok m (some (mkDiag "MULTIPLE_X" .error [⟨line, col + 1, some xs.length, none⟩])) := by
  have hn : (xs == ['x'] || xs == ['X']) = false := by
    match xs, h2 with
    | _ :: _ :: _, _ => simp
  simp [floatVerdict, hk, he, hx, hn]

theorem floatVerdict_hexBadExp (hk : m.kind = .hexadecimal) (he : m.exp ≠ []) {x : Char} (hxx : x = 'x' ∨ x = 'X')
    (hx : stripChars (Generated.hexadecimalDigits.toList ++ ['.']) m.const = [x])
    (hg : goodBinExponent u m.exp = false) :
    floatVerdict u line col m = .tok m (some (mkDiag "BAD_EXPONENT" .error
      [⟨line, col + m.const.length, some (m.exp.length + m.suf.length), none⟩])) := by
  rcases hxx with rfl | rfl <;> simp [floatVerdict, hk, he, hx, hg]

theorem floatVerdict_hexOk (hk : m.kind = .hexadecimal) (he : m.exp ≠ []) {x : Char} (hxx : x = 'x' ∨ x = 'X')
    (hx : stripChars (Generated.hexadecimalDigits.toList ++ ['.']) m.const = [x])
    (hg : goodBinExponent u m.exp = true) (hs : m.suf.count '.' = 0)
    (ht : Generated.floatSuffixes.contains (String.ofList m.suf) = true) :
    floatVerdict u line col m = .tok m none := by
  have ht : String.ofList m.suf ∈ Generated.floatSuffixes := by simpa using ht
  rcases hxx with rfl | rfl <;> simp [floatVerdict, hk, he, hx, hg, hs, ht]

end verdict

end Norm
