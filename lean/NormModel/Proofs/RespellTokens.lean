/- Reading equivalence through every sub-lexer: the token has the same kind and the same value in both texts (the text
of a block comment excepted, whose tabs are expanded by column), and the texts left read the same again. -/
import NormModel.Proofs.RespellNum
namespace Norm
open Spec

/-- same kind; same value where `V` asks for it; the texts left read the same -/
def TokSimV (V : Token → Prop) : Option (LexSt × Token) → Option (LexSt × Token) → Prop
  | none, none => True
  | some (s1, x), some (t1, y) => x.type = y.type ∧ (V x → x.value = y.value) ∧ ReadEq s1.rest t1.rest
  | _, _ => False

theorem TokSimV.of_eq {V : Token → Prop} {s1 t1 : LexSt} {x y : Token} (ht : x.type = y.type) (hv : x.value = y.value)
    (hr : ReadEq s1.rest t1.rest) : TokSimV V (some (s1, x)) (some (t1, y)) := ⟨ht, fun _ => hv, hr⟩

theorem tokSim_iff {x y : Option (LexSt × Token)} : TokSim x y ↔ TokSimV (fun _ => True) x y := by
  cases x with
  | none => cases y <;> exact Iff.rfl
  | some p => cases y with
    | none => exact Iff.rfl
    | some q => exact ⟨fun h => ⟨h.1, fun _ => h.2.1, h.2.2⟩, fun h => ⟨h.1, h.2.1 trivial, h.2.2⟩⟩

theorem addDiag?_rest (s : LexSt) (d : Option Diag) : (s.addDiag? d).rest = s.rest := by
  cases d <;> rfl

theorem addDiag_rest (s : LexSt) (d : Diag) : (s.addDiag d).rest = s.rest := rfl

variable {V : Token → Prop}

theorem parseFloat_readEq (u : Uni) (s t : LexSt) (h : ReadEq s.rest t.rest) :
    TokSimV V (parseFloat u s) (parseFloat u t) := by
  unfold parseFloat
  rcases h.head_cases (fun _ => false) (fun _ hc => nomatch hc) with ⟨_, _, _, _, _, hc, _⟩ | ⟨ea, eb⟩ | ⟨x, a', y, b', ea, eb, _, _⟩
  · cases hc
  · rw [ea, eb]; trivial
  · have hk := floatKey_readEq u s.line s.col t.line t.col h
    rw [ea, eb] at hk ⊢
    simp only
    generalize floatLogic u s.line s.col (x :: a') = ra, floatLogic u t.line t.col (y :: b') = rb at hk
    cases ra with
    | noMatch => cases rb with
      | noMatch => trivial
      | tok m d => cases hk
    | tok m d => cases rb with
      | noMatch => cases hk
      | tok m' d' =>
        cases hk
        obtain ⟨s2, t2, r, pa, pb, p1⟩ := popN_sim (m.const.length + m.exp.length + m.suf.length)
          (s := s.addDiag? d) (t := t.addDiag? d') (by rw [addDiag?_rest, addDiag?_rest]; exact h)
        simp only [pa, pb]
        cases r with
        | none => trivial
        | some v => exact .of_eq rfl rfl p1

theorem parseInt_readEq (u : Uni) (s t : LexSt) (h : ReadEq s.rest t.rest) :
    TokSimV V (parseInt u s) (parseInt u t) := by
  unfold parseInt
  rw [matchInt_readEq u h]
  cases matchInt u t.rest with
  | none => trivial
  | some m =>
    obtain ⟨s2, t2, r, pa, pb, p1⟩ := popN_sim (m.pre.length + m.const.length + m.suf.length) h
    simp only [pa, pb]
    cases r with
    | none => trivial
    | some v => exact .of_eq rfl rfl p1

/-! ### literal prefixes -/

theorem rawPeek_readEq_none {a b : List Char} (h : ReadEq a b) (n : Nat) : rawPeek a 0 n = none ↔ rawPeek b 0 n = none := by
  unfold rawPeek
  cases a with
  | nil => rw [h.nil_left]
  | cons x a' =>
    cases b with
    | nil => have := h.nil_right; cases this
    | cons y b' => simp

/-- the condition tested for one candidate prefix, as a statement about the text -/
theorem qp_cond_iff (q : Char) (rest pl : List Char) (hq : q ∉ pl) :
    (pl.isPrefixOf (rest.take (pl.length + 1)) = true ∧ (rest.take (pl.length + 1)).getLast? = some q) ↔
    ∃ tl, rest = pl ++ q :: tl := by
  constructor
  · rintro ⟨h1, h2⟩
    obtain ⟨p1, p2⟩ := qp_cond_spec q rest pl hq h1 h2
    obtain ⟨r, hr⟩ := List.isPrefixOf_iff_prefix.mp p1
    subst hr
    rw [List.getElem?_append_right (by omega)] at p2
    simp only [Nat.sub_self] at p2
    cases r with
    | nil => simp at p2
    | cons x xs =>
      simp only [List.getElem?_cons_zero, Option.some.injEq] at p2
      subst p2
      exact ⟨xs, rfl⟩
  · rintro ⟨tl, rfl⟩
    have : (pl ++ q :: tl).take (pl.length + 1) = pl ++ [q] := by
      have e : pl ++ q :: tl = (pl ++ [q]) ++ tl := by simp
      rw [e, List.take_left' (by simp)]
    rw [this]
    exact ⟨List.isPrefixOf_iff_prefix.mpr ⟨[q], rfl⟩, by simp⟩

theorem quote_plain {q : Char} (hq : q = '\'' ∨ q = '"') : Plain q := by
  rcases hq with rfl | rfl <;> decide

theorem quotePrefix_readEq (q : Char) (hq : q = '\'' ∨ q = '"') {a b : List Char} (h : ReadEq a b) :
    ∀ ps : List String, (∀ p ∈ ps, p ∈ Generated.quotePrefixes) → quotePrefix q a ps = quotePrefix q b ps := by
  intro ps
  induction ps with
  | nil => intro _; rfl
  | cons p ps ih =>
    intro hsub
    have htbl := quotePrefixes_tbl p (hsub p (by simp))
    have hqp : q ∉ p.toList := by rcases hq with rfl | rfl; exact htbl.1; exact htbl.2.1
    have hplain : ∀ c ∈ p.toList ++ [q], Plain c := by
      intro c hc
      rcases List.mem_append.mp hc with hc | hc
      · exact idChar_plain c (htbl.2.2.1 c hc)
      · simp only [List.mem_singleton] at hc; subst hc; exact quote_plain hq
    unfold quotePrefix
    simp only
    cases a with
    | nil => rw [h.nil_left]
    | cons x a' =>
      cases b with
      | nil => have := h.nil_right; cases this
      | cons y b' =>
        have ra : rawPeek (x :: a') 0 (p.toList.length + 1) = some ((x :: a').take (p.toList.length + 1)) := by simp [rawPeek]
        have rb : rawPeek (y :: b') 0 (p.toList.length + 1) = some ((y :: b').take (p.toList.length + 1)) := by simp [rawPeek]
        rw [ra, rb]
        simp only
        have hiff : ∀ {l m : List Char}, ReadEq l m → (∃ tl, l = p.toList ++ q :: tl) → ∃ tl, m = p.toList ++ q :: tl := by
          intro l m hlm ⟨tl, e⟩
          have e' : l = (p.toList ++ [q]) ++ tl := by rw [e]; simp
          rw [e'] at hlm
          obtain ⟨m', em, _⟩ := hlm.prefix_plain hplain
          exact ⟨m', by rw [em]; simp⟩
        by_cases ca : (p.toList.isPrefixOf ((x :: a').take (p.toList.length + 1)) && ((x :: a').take (p.toList.length + 1)).getLast? == some q) = true
        · have cb : (p.toList.isPrefixOf ((y :: b').take (p.toList.length + 1)) && ((y :: b').take (p.toList.length + 1)).getLast? == some q) = true := by
            simp only [Bool.and_eq_true, beq_iff_eq] at ca ⊢
            exact (qp_cond_iff q _ _ hqp).mpr (hiff h ((qp_cond_iff q _ _ hqp).mp ca))
          simp only [ca, cb, ↓reduceIte]
        · have cb : ¬ (p.toList.isPrefixOf ((y :: b').take (p.toList.length + 1)) && ((y :: b').take (p.toList.length + 1)).getLast? == some q) = true := by
            intro cb
            apply ca
            simp only [Bool.and_eq_true, beq_iff_eq] at cb ⊢
            exact (qp_cond_iff q _ _ hqp).mpr (hiff h.symm ((qp_cond_iff q _ _ hqp).mp cb))
          simp only [ca, cb, Bool.false_eq_true, ↓reduceIte]
          exact ih (fun p' hp' => hsub p' (List.mem_cons_of_mem _ hp'))

/-! ### character constants and string literals -/

theorem charFin_sim (s t : LexSt) (r r' : LexSt × List Char × Nat) (hv : r.2 = r'.2) (hr : ReadEq r.1.rest r'.1.rest) :
    TokSimV V (charFin s r) (charFin t r') := by
  obtain ⟨s3, v, n⟩ := r
  obtain ⟨t3, v', n'⟩ := r'
  cases hv
  unfold charFin
  refine .of_eq rfl rfl ?_
  simp only
  split <;> split <;> simpa [addDiag_rest] using hr

theorem strFin_sim (s t : LexSt) (r r' : LexSt × List Char × Bool) (hv : r.2 = r'.2) (hr : ReadEq r.1.rest r'.1.rest) :
    TokSimV V (strFin s r) (strFin t r') := by
  obtain ⟨s3, v, e⟩ := r
  obtain ⟨t3, v', e'⟩ := r'
  cases hv
  unfold strFin
  refine .of_eq rfl rfl ?_
  simp only
  split <;> simpa [addDiag_rest] using hr

theorem quote_word {q : Char} (hq : q = '\'' ∨ q = '"') : RawWord [q] :=
  rawWord_plain (by intro c hc; cases List.mem_singleton.mp hc; exact quote_plain hq)

theorem parseChar_readEq (s t : LexSt) (h : ReadEq s.rest t.rest) : TokSimV V (parseChar s) (parseChar t) := by
  rw [parseChar_eq, parseChar_eq, quotePrefix_readEq '\'' (Or.inl rfl) h _ (fun p hp => hp)]
  cases quotePrefix '\'' t.rest Generated.quotePrefixes with
  | none => trivial
  | some n =>
    obtain ⟨s1, t1, r, pa, pb, p1⟩ := popN_sim n h
    simp only [pa, pb]
    cases r with
    | none => trivial
    | some pre =>
      obtain ⟨s2, t2, rq, qa, qb, q1, _⟩ := popOne_sim false p1
      simp only [bne, rawPeek_readEq (n := 1) (quote_word (Or.inl rfl)) rfl (by decide) p1, qa, qb]
      split
      · trivial
      · cases rq with
        | none => trivial
        | some q =>
          obtain ⟨c1, c2⟩ := charLoop_readEq (s2.rest.length + 1) (t2.rest.length + 1) s.line s.col t.line t.col s2 t2 (pre ++ q) 0
            (by omega) (by omega) q1
          exact charFin_sim s t _ _ c1 c2

theorem parseString_readEq (s t : LexSt) (h : ReadEq s.rest t.rest) : TokSimV V (parseString s) (parseString t) := by
  rw [parseString_eq, parseString_eq]
  rcases h.peek with ⟨h1, h2, _, _⟩ | ⟨c, ka, kb, h1, h2, _⟩
  · rw [h1, h2]; trivial
  · rw [h1, h2]
    simp only
    rw [quotePrefix_readEq '"' (Or.inr rfl) h _ (fun p hp => hp)]
    cases quotePrefix '"' t.rest Generated.quotePrefixes with
    | none => trivial
    | some n =>
      obtain ⟨s1, t1, r, pa, pb, p1⟩ := popN_sim n h
      simp only [pa, pb]
      cases r with
      | none => trivial
      | some pre =>
        obtain ⟨s2, t2, rq, qa, qb, q1, _⟩ := popOne_sim false p1
        simp only [bne, rawPeek_readEq (n := 1) (quote_word (Or.inr rfl)) rfl (by decide) p1, qa, qb]
        split
        · trivial
        · cases rq with
          | none => trivial
          | some q =>
            obtain ⟨c1, c2⟩ := strLoop_readEq (s2.rest.length + 1) (t2.rest.length + 1) s2 t2 (pre ++ q) (by omega) (by omega) q1
            exact strFin_sim s t _ _ c1 c2

/-! ### identifiers, white space, comments -/

theorem idStart_plain : ∀ c, isIdStart c = true → Plain c := by
  intro c hc
  apply idChar_plain
  unfold isIdStart at hc
  unfold isIdChar
  simp only [Bool.or_eq_true, beq_iff_eq] at hc ⊢
  rcases hc with h | h
  · exact Or.inl (Or.inl h)
  · exact Or.inr h

theorem parseIdent_readEq (s t : LexSt) (h : ReadEq s.rest t.rest) : TokSimV V (parseIdent s) (parseIdent t) := by
  unfold parseIdent
  rcases h.head_cases isIdStart idStart_plain with ⟨c, a', b', ea, eb, hc, _⟩ | ⟨ea, eb⟩ | ⟨x, a', y, b', ea, eb, hx, hy⟩
  · obtain ⟨s1, t1, r, qa, qb, q1, _⟩ := popOne_sim false h
    rw [ea, eb]
    simp only [hc, Bool.not_true, Bool.false_eq_true, ↓reduceIte, qa, qb]
    cases r with
    | none => trivial
    | some ch =>
      simp only
      obtain ⟨i1, i2⟩ := identLoop_readEq (s1.rest.length + 1) (t1.rest.length + 1) s1 t1 ch (by omega) (by omega) q1
      generalize identLoop (s1.rest.length + 1) s1 ch = ra, identLoop (t1.rest.length + 1) t1 ch = rb at i1 i2 ⊢
      obtain ⟨s2, v⟩ := ra
      obtain ⟨t2, v'⟩ := rb
      cases i1
      simp only
      split <;> exact .of_eq rfl rfl i2
  · rw [ea, eb]; trivial
  · rw [ea, eb]
    simp only [hx, hy, Bool.not_false, ↓reduceIte]
    trivial

def isWsChar (c : Char) : Bool := c == ' ' || c == '\t' || c == '\n'

theorem wsChar_plain : ∀ c, isWsChar c = true → Plain c :=
  plain_or (plain_or (plain_eq ' ' (by decide)) (plain_eq '\t' (by decide))) (plain_eq '\n' (by decide))

theorem parseWhitespace_readEq (s t : LexSt) (h : ReadEq s.rest t.rest) :
    TokSimV V (parseWhitespace s) (parseWhitespace t) := by
  unfold parseWhitespace
  rcases h.head_cases isWsChar wsChar_plain with ⟨c, a', b', ea, eb, hc, _⟩ | ⟨ea, eb⟩ | ⟨x, a', y, b', ea, eb, hx, hy⟩
  · obtain ⟨s1, t1, r, qa, qb, q1, _⟩ := popOne_sim false h
    rw [ea, eb]
    simp only [qa, qb]
    split
    · trivial
    · cases r with
      | none => trivial
      | some ch => exact .of_eq rfl rfl q1
  · rw [ea, eb]; trivial
  · simp only [isWsChar, Bool.or_eq_false_iff] at hx hy
    rw [ea, eb]
    simp only [hx.1.1, hx.1.2, hx.2, hy.1.1, hy.1.2, hy.2, Bool.false_eq_true, ↓reduceIte]
    trivial

theorem parseLineComment_readEq (s t : LexSt) (h : ReadEq s.rest t.rest) :
    TokSimV V (parseLineComment s) (parseLineComment t) := by
  unfold parseLineComment
  obtain ⟨s1, t1, r, pa, pb, p1⟩ := popN_sim 2 h
  simp only [bne, rawPeek_readEq (n := 2) (w := ['/', '/']) (rawWord_plain (by decide)) rfl (by decide) h, pa, pb]
  split
  · trivial
  · cases r with
    | none => trivial
    | some v0 =>
      simp only
      obtain ⟨l1, l2⟩ := lineCommentLoop_readEq (s1.rest.length + 1) (t1.rest.length + 1) s1 t1 v0 (by omega) (by omega) p1
      generalize lineCommentLoop (s1.rest.length + 1) s1 v0 = ra, lineCommentLoop (t1.rest.length + 1) t1 v0 = rb at l1 l2 ⊢
      cases ra; cases rb; cases l1
      exact .of_eq rfl rfl l2

/-- the text of a block comment may differ (expanded tabs): nothing is claimed about its value -/
theorem parseMultiComment_readEq (hV : ∀ x : Token, V x → x.type ≠ "MULT_COMMENT") (s t : LexSt) (h : ReadEq s.rest t.rest) :
    TokSimV V (parseMultiComment s) (parseMultiComment t) := by
  unfold parseMultiComment
  obtain ⟨s1, t1, r, pa, pb, p1⟩ := popN_sim 2 h
  simp only [bne, rawPeek_readEq (n := 2) (w := ['/', '*']) (rawWord_plain (by decide)) rfl (by decide) h, pa, pb]
  split
  · trivial
  · cases r with
    | none => trivial
    | some v0 =>
      simp only
      have hv0 : v0.length = 2 := popN_len 2 s v0 (by rw [pa])
      obtain ⟨l1, l2⟩ := multiCommentLoop_readEq (s1.rest.length + 1) (t1.rest.length + 1) s1 t1 v0 v0
        (by omega) (by omega) p1 ⟨rfl, by omega, by omega, Or.inl rfl⟩
      generalize multiCommentLoop (s1.rest.length + 1) s1 v0 = ra, multiCommentLoop (t1.rest.length + 1) t1 v0 = rb at l1 l2 ⊢
      refine ⟨rfl, fun hx => absurd rfl (hV _ hx), ?_⟩
      simp only [l1]
      split <;> simpa [addDiag_rest] using l2

/-! ### operators and brackets -/

theorem peek2_sim {a b : List Char} (h : ReadEq a b) :
    (peek2 a = none ∧ peek2 b = none) ∨ ∃ cs ka kb, peek2 a = some (cs, ka) ∧ peek2 b = some (cs, kb) := by
  have := peek2_readEq h
  cases ha : peek2 a with
  | none => cases hb : peek2 b with
    | none => exact Or.inl ⟨rfl, rfl⟩
    | some q => rw [ha, hb] at this; cases this
  | some p => cases hb : peek2 b with
    | none => rw [ha, hb] at this; cases this
    | some q =>
      rw [ha, hb] at this
      cases p; cases q
      cases Option.some.inj this
      exact Or.inr ⟨_, _, _, rfl, rfl⟩

/-- `<<=` has one spelling: `<` is read from itself only, and neither `<<` nor `<=` is a digraph -/
theorem shl_assign_word : RawWord "<<=".toList := by
  intro ta b h
  have p1 : peek1 ('<' :: '<' :: '=' :: ta) 0 = some ('<', 1) := peek1_of_diAt_none (by decide) (by simp only [diAt]; decide)
  have p2 : peek1 ('<' :: '=' :: ta) 0 = some ('<', 1) := peek1_of_diAt_none (by decide) (by simp only [diAt]; decide)
  obtain ⟨b1, rfl, h1⟩ := ReadEq.head_raw h p1 (by decide)
  obtain ⟨b2, rfl, h2⟩ := h1.head_raw p2 (by decide)
  obtain ⟨b3, rfl, h3⟩ := h2.head_plain (by decide)
  exact ⟨b3, rfl, h3⟩

/-- **The length of the operator is decided by what is read**, the three-character look-ahead included: it is raw, but
`>>=`, `<<=` and `...` have one spelling. -/
theorem opLen_readEq {a b : List Char} (h : ReadEq a b) : opLen a = opLen b := by
  unfold opLen
  rcases h.peek with ⟨h1, h2, _, _⟩ | ⟨c, ka, kb, h1, h2, _⟩
  · rw [h1, h2]
  · rw [h1, h2]
    simp only [rawPeek_readEq (n := 3) (w := ">>=".toList) (rawWord_plain (by decide)) rfl (by decide) h,
      rawPeek_readEq (n := 3) shl_assign_word rfl (by decide) h,
      rawPeek_readEq (n := 3) (w := "...".toList) (rawWord_plain (by decide)) rfl (by decide) h]
    rcases peek2_sim h with ⟨ea, eb⟩ | ⟨cs, ja, jb, ea, eb⟩ <;> rw [ea, eb]

theorem opFin_readEq (n : Nat) {s t : LexSt} (h : ReadEq s.rest t.rest) : OpSim (opFin s n) (opFin t n) := by
  obtain ⟨s1, t1, r, pa, pb, p1⟩ := popN_sim n h
  unfold opFin
  rw [pa, pb]
  cases r with
  | none => trivial
  | some v =>
    simp only
    split
    · exact ⟨rfl, rfl, p1⟩
    · trivial

/-- **Operators are recognised from what is read, not from how it is spelled.** -/
theorem parseOperator_readEq (s t : LexSt) (h : ReadEq s.rest t.rest) :
    OpSim (parseOperator s) (parseOperator t) := by
  rw [parseOperator_eq, parseOperator_eq, opLen_readEq h]
  cases opLen t.rest with
  | none => trivial
  | some n => exact opFin_readEq n h

theorem parseBrackets_readEq (s t : LexSt) (h : ReadEq s.rest t.rest) :
    TokSimV V (parseBrackets s) (parseBrackets t) := by
  unfold parseBrackets
  rcases h.peek with ⟨h1, h2, _, _⟩ | ⟨c, ka, kb, h1, h2, _⟩
  · rw [h1, h2]; trivial
  · obtain ⟨s1, t1, r, pa, pb, p1, _⟩ := popOne_sim false h
    rw [h1, h2]
    simp only [pa, pb]
    split
    · trivial
    · cases r with
      | none => trivial
      | some v => exact .of_eq rfl rfl p1

end Norm
