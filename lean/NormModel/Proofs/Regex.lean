/- Building matches of sequential patterns. -/
import NormModel.Model.Regex
namespace Norm

def lit1 (c : Char) : Atom := ⟨.lit c, 1, some 1⟩
def lits (cs : List Char) : List Atom := cs.map lit1
def anyStar : Atom := ⟨.any, 0, none⟩
def any1 : Atom := ⟨.any, 1, some 1⟩
def notSpStar : Atom := ⟨.notLit ' ', 0, none⟩

theorem ms_lit (c : Char) {rest : List Atom} {tail : List Char} (h : MatchesSeq rest tail) :
    MatchesSeq (lit1 c :: rest) (c :: tail) := by
  have := MatchesSeq.cons (lit1 c) rest [c] tail (by intro x hx; simp at hx; subst hx; simp [lit1, CSet.mem])
    (by simp [lit1]) (by intro m hm; simp [lit1] at hm; subst hm; simp) h
  simpa using this

theorem ms_lits (cs : List Char) {rest : List Atom} {tail : List Char} (h : MatchesSeq rest tail) :
    MatchesSeq (lits cs ++ rest) (cs ++ tail) := by
  induction cs with
  | nil => simpa [lits] using h
  | cons c cs ih => simpa [lits] using ms_lit c ih

theorem ms_anyStar (chunk : List Char) {rest : List Atom} {tail : List Char} (h : MatchesSeq rest tail) :
    MatchesSeq (anyStar :: rest) (chunk ++ tail) :=
  MatchesSeq.cons anyStar rest chunk tail (by intro x _; simp [anyStar, CSet.mem]) (by simp [anyStar])
    (by intro m hm; simp [anyStar] at hm) h

theorem ms_any1 (c : Char) {rest : List Atom} {tail : List Char} (h : MatchesSeq rest tail) :
    MatchesSeq (any1 :: rest) (c :: tail) := by
  have := MatchesSeq.cons any1 rest [c] tail (by intro x _; simp [any1, CSet.mem]) (by simp [any1])
    (by intro m hm; simp [any1] at hm; subst hm; simp) h
  simpa using this

theorem ms_notSpStar (chunk : List Char) (hc : ∀ c ∈ chunk, c ≠ ' ') {rest : List Atom} {tail : List Char}
    (h : MatchesSeq rest tail) : MatchesSeq (notSpStar :: rest) (chunk ++ tail) :=
  MatchesSeq.cons notSpStar rest chunk tail
    (by intro x hx; simp only [notSpStar, CSet.mem, bne_iff_ne, ne_eq]; exact fun e => hc x hx e.symm)
    (by simp [notSpStar]) (by intro m hm; simp [notSpStar] at hm) h

theorem ms_rep (a : Atom) (chunk : List Char) (n : Nat) (ha : a.min = n) (hm : a.max = some n)
    (hl : chunk.length = n) (hs : ∀ c ∈ chunk, a.set.mem c = true) {rest : List Atom} {tail : List Char}
    (h : MatchesSeq rest tail) : MatchesSeq (a :: rest) (chunk ++ tail) :=
  MatchesSeq.cons a rest chunk tail hs (by omega) (by intro m hm'; rw [hm] at hm'; cases hm'; omega) h

theorem ms_append {a b : List Atom} {s t : List Char} (h1 : MatchesSeq a s) (h2 : MatchesSeq b t) :
    MatchesSeq (a ++ b) (s ++ t) := by
  induction h1 with
  | nil => simpa using h2
  | cons x rest chunk tail hs hmin hmax _ ih =>
    have := MatchesSeq.cons x (rest ++ b) chunk (tail ++ t) hs hmin hmax ih
    simpa [List.append_assoc] using this

theorem searches_of_matches {r : List Atom} {s : List Char} (h : MatchesSeq r s) : Searches r s :=
  ⟨[], s, [], by simp, h⟩

/-- `re.search` is monotone under extension of the text on either side -/
theorem searches_mono {r : List Atom} {s : List Char} (pre post : List Char) (h : Searches r s) :
    Searches r (pre ++ s ++ post) := by
  obtain ⟨a, m, b, rfl, hm⟩ := h
  exact ⟨pre ++ a, m, b ++ post, by simp [List.append_assoc], hm⟩

/-! ### a cheaper run of the executable matcher, for test vectors -/

/-- `searchNfa.go`, except that once a character leaves the state set unchanged the rest of its run is skipped
(a cheaper run for the kernel on texts with long runs of blanks; `fuel` bounds the steps) -/
def goRuns (ra : Array Atom) (n : Nat) (acc : List (Nat × Nat) → Bool) : Nat → List Char → List (Nat × Nat) → Bool
  | 0, _, _ => false
  | _ + 1, [], st => acc st
  | fuel + 1, c :: cs, st =>
    if acc st then true else
    let st' := closure ra (n + 1) (stepNfa ra st c ++ [(0, 0)])
    if st' == st then goRuns ra n acc fuel (cs.dropWhile (· == c)) st else goRuns ra n acc fuel cs st'

theorem go_dropRun {ra : Array Atom} {n : Nat} {acc : List (Nat × Nat) → Bool} {st : List (Nat × Nat)} {c : Char}
    (hfix : closure ra (n + 1) (stepNfa ra st c ++ [(0, 0)]) = st) (hacc : acc st = false) :
    ∀ cs, searchNfa.go ra n acc (cs.dropWhile (· == c)) st = searchNfa.go ra n acc cs st
  | [] => rfl
  | d :: ds => by
    rw [List.dropWhile_cons]
    split
    · rename_i h
      rw [go_dropRun hfix hacc ds, searchNfa.go, hacc, eq_of_beq h, hfix]; rfl
    · rfl

theorem go_of_goRuns {ra : Array Atom} {n : Nat} {acc : List (Nat × Nat) → Bool} :
    ∀ fuel s st, goRuns ra n acc fuel s st = true → searchNfa.go ra n acc s st = true
  | 0, _, _, h => nomatch h
  | _ + 1, [], _, h => h
  | fuel + 1, c :: cs, st, h => by
    rw [goRuns] at h
    rw [searchNfa.go]
    split at h
    · rename_i ha; rw [if_pos ha]
    · rename_i ha
      rw [if_neg ha]
      dsimp only at h ⊢
      split at h
      · rename_i hfix
        have hfix := eq_of_beq hfix
        rw [hfix, ← go_dropRun hfix (by simpa using ha) cs]
        exact go_of_goRuns fuel _ _ h
      · exact go_of_goRuns fuel _ _ h

end Norm
