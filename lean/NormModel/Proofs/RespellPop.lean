/- Reading equivalence through `pop`: the splice loop, escapes, and one `pop` give the same characters in two
texts that read the same (a tab expanded to blanks excepted, whose width depends on the column). -/
import NormModel.Proofs.RespellRaw
namespace Norm
open Spec

/-- two outcomes of the splice loop: both at the end of input, or both stopped on the same character -/
def SpliceSim (r r' : Option (Char × Nat)) : Prop :=
  (r = none ∧ r' = none) ∨ ∃ c ka kb, r = some (c, ka) ∧ r' = some (c, kb)

/-- **Two fuelled loops run side by side.**  `F` and `G` recurse on a fuel that exceeds a measure of their state; if one
round keeps `Out`, given `Out` for all related states of smaller measure (at the fuels below), then `Out` holds whatever
the two fuels are.  All loops of the lexer are compared through this. -/
theorem fuel_sim {σ τ ρ ρ' : Type} (μ : σ → Nat) (ν : τ → Nat) (F : Nat → σ → ρ) (G : Nat → τ → ρ')
    (Inv : σ → τ → Prop) (Out : ρ → ρ' → Prop)
    (step : ∀ fa fb x y, Inv x y → (∀ x' y', Inv x' y' → μ x' < μ x → ν y' < ν y → Out (F fa x') (G fb y')) →
      Out (F (fa + 1) x) (G (fb + 1) y)) :
    ∀ fa fb x y, μ x < fa → ν y < fb → Inv x y → Out (F fa x) (G fb y) := by
  intro fa
  induction fa with
  | zero => intro fb x y h; omega
  | succ fa ih =>
    intro fb x y hfa hfb hinv
    cases fb with
    | zero => omega
    | succ fb => exact step fa fb x y hinv (fun x' y' h' l1 l2 => ih fb x' y' (by omega) (by omega) h')

theorem spliceLoop_readEq (fa fb : Nat) (s t : LexSt) (hfa : s.rest.length < fa) (hfb : t.rest.length < fb)
    (h : ReadEq s.rest t.rest) :
    ReadEq (spliceLoop fa s).1.rest (spliceLoop fb t).1.rest ∧ SpliceSim (spliceLoop fa s).2 (spliceLoop fb t).2 := by
  refine fuel_sim (·.rest.length) (·.rest.length) spliceLoop spliceLoop (fun s t => ReadEq s.rest t.rest)
    (fun r r' => ReadEq r.1.rest r'.1.rest ∧ SpliceSim r.2 r'.2) ?_ fa fb s t hfa hfb h
  intro fa fb s t h ih
  unfold spliceLoop
  rcases h.peek with ⟨h1, h2, _, _⟩ | ⟨c, ka, kb, h1, h2, h3⟩
  · rw [h1, h2]; exact ⟨h, Or.inl ⟨rfl, rfl⟩⟩
  · rw [h1, h2]
    simp only
    have stop : ReadEq s.rest t.rest ∧ SpliceSim (some (c, ka)) (some (c, kb)) := ⟨h, Or.inr ⟨_, _, _, rfl, rfl⟩⟩
    by_cases hc : c = '\\'
    · subst hc
      simp only [bne_self_eq_false, Bool.false_eq_true, ↓reduceIte]
      rw [peek1_off s.rest ka, peek1_off t.rest kb]
      rcases h3.peek with ⟨g1, g2, _, _⟩ | ⟨d, ja, jb, g1, g2, g3⟩
      · rw [g1, g2]; exact stop
      · rw [g1, g2]
        simp only
        by_cases hd : d = '\n'
        · subst hd
          obtain ⟨rfl, _⟩ := peek1_ws g1 (Or.inl rfl)
          obtain ⟨rfl, _⟩ := peek1_ws g2 (Or.inl rfl)
          obtain ⟨_, _, _⟩ := peek1_spec h1
          obtain ⟨_, _, _⟩ := peek1_spec h2
          simp only [bne_self_eq_false, Bool.false_eq_true, ↓reduceIte]
          apply ih
          · simp only [advance]
            rw [← List.drop_drop, ← List.drop_drop]
            exact g3
          · simp only [advance, List.length_drop]; omega
          · simp only [advance, List.length_drop]; omega
        · rw [if_pos (bne_iff_ne.mpr hd), if_pos (bne_iff_ne.mpr hd)]; exact stop
    · rw [if_pos (bne_iff_ne.mpr hc), if_pos (bne_iff_ne.mpr hc)]; exact stop

theorem ReadEq.step_inv {a b : List Char} {c c' : Char} {ka kb : Nat} (h : ReadEq a b)
    (h1 : peek1 a 0 = some (c, ka)) (h2 : peek1 b 0 = some (c', kb)) : c = c' ∧ ReadEq (a.drop ka) (b.drop kb) := by
  rcases h.peek with ⟨g1, _, _, _⟩ | ⟨d, ja, jb, g1, g2, g3⟩
  · rw [h1] at g1; cases g1
  · rw [h1] at g1; rw [h2] at g2
    simp only [Option.some.injEq, Prod.mk.injEq] at g1 g2
    obtain ⟨rfl, rfl⟩ := g1
    obtain ⟨rfl, rfl⟩ := g2
    exact ⟨rfl, g3⟩

theorem hex_plain : ∀ c, isHexDigit c = true → Plain c := fun _ h => .of_word (hex_sub_word (isHexDigit_iff.mp h))
theorem octal_plain : ∀ c, isOctal c = true → Plain c := fun _ h => .of_word (dec_sub_word (oct_sub_dec (isOctal_iff.mp h)))

theorem takeWhile_take (p : Char → Bool) (n : Nat) (l : List Char) : (l.take n).takeWhile p = (l.takeWhile p).take n := by
  induction l generalizing n with
  | nil => simp
  | cons x l ih =>
    cases n with
    | zero => simp
    | succ n =>
      by_cases hx : p x = true
      · simp [hx, ih]
      · simp [hx]

theorem take_prefix_of_takeWhile (p : Char → Bool) (n : Nat) (l : List Char) :
    ∃ r, l = (l.takeWhile p).take n ++ r ∧ l.drop ((l.takeWhile p).take n).length = r := by
  refine ⟨l.drop ((l.takeWhile p).take n).length, ?_, rfl⟩
  have hpre : (l.takeWhile p).take n <+: l := (List.take_prefix _ _).trans (List.takeWhile_prefix p)
  have := List.prefix_iff_eq_take.mp hpre
  conv => lhs; rw [← List.take_append_drop ((l.takeWhile p).take n).length l]
  rw [← this]

/-- the escape handling reads the same escape in both texts -/
theorem escape_readEq (s t : LexSt) (ka kb : Nat) (e : Char) (ja jb : Nat)
    (h3 : ReadEq (s.rest.drop ka) (t.rest.drop kb))
    (g1 : peek1 (s.rest.drop ka) 0 = some (e, ja)) (g2 : peek1 (t.rest.drop kb) 0 = some (e, jb)) :
    (escape s ka e ja).1 = (escape t kb e jb).1 ∧
    ReadEq (s.rest.drop (escape s ka e ja).2.1) (t.rest.drop (escape t kb e jb).2.1) := by
  obtain ⟨_, g3⟩ := h3.step_inv g1 g2
  have two : ReadEq (s.rest.drop (ka + ja)) (t.rest.drop (kb + jb)) := by
    rw [← List.drop_drop, ← List.drop_drop]; exact g3
  unfold escape
  by_cases hs : simpleEscapes.contains e = true
  · simp only [hs, ↓reduceIte]; exact ⟨by first | rfl | trivial, two⟩
  · simp only [hs, Bool.false_eq_true, ↓reduceIte]
    by_cases hx : e = 'x'
    · subst hx
      simp only [beq_self_eq_true, ↓reduceIte]
      have hpx : Plain 'x' := by decide
      obtain ⟨rfl, _, ea⟩ := peek1_unspelled g1 hpx.1
      obtain ⟨rfl, _, eb⟩ := peek1_unspelled g2 hpx.1
      -- the text after `\\x`: the run of hexadecimal digits is the same raw text
      unfold takeWhileFrom
      obtain ⟨k1, k2⟩ := takeWhile_readEq isHexDigit hex_plain two
      rw [k1]
      by_cases hds : ((t.rest.drop (kb + 1)).takeWhile isHexDigit).isEmpty = true
      · simp only [hds, ↓reduceIte]
        exact ⟨by first | rfl | trivial, two⟩
      · simp only [hds, Bool.false_eq_true, ↓reduceIte]
        refine ⟨by first | rfl | trivial, ?_⟩
        rw [← List.drop_drop, ← List.drop_drop (j := kb + 1), drop_takeWhile_length, ← k1, drop_takeWhile_length]
        exact k2
    · have hx' : (e == 'x') = false := by simp [hx]
      simp only [hx', Bool.false_eq_true, ↓reduceIte]
      by_cases ho : isOctal e = true
      · simp only [ho, ↓reduceIte]
        unfold takeWhileFrom
        obtain ⟨k1, k2⟩ := takeWhile_readEq isOctal octal_plain h3
        refine ⟨by rw [k1], ?_⟩
        rw [← List.drop_drop, ← List.drop_drop (j := kb), drop_takeWhile_length, drop_takeWhile_length]
        exact k2
      · simp only [ho, Bool.false_eq_true, ↓reduceIte]
        exact ⟨by first | rfl | trivial, two⟩

theorem escOf_readEq (ue : Bool) (s t : LexSt) (c : Char) (ka kb : Nat) (h : ReadEq s.rest t.rest)
    (h1 : peek1 s.rest 0 = some (c, ka)) (h2 : peek1 t.rest 0 = some (c, kb)) :
    (escOf ue s c ka).1 = (escOf ue t c kb).1 ∧
    ReadEq (s.rest.drop (escOf ue s c ka).2.1) (t.rest.drop (escOf ue t c kb).2.1) := by
  obtain ⟨_, h3⟩ := h.step_inv h1 h2
  unfold escOf
  by_cases hb : (c == '\\' && ue) = true
  · simp only [hb, ↓reduceIte]
    rw [peek1_off s.rest ka, peek1_off t.rest kb]
    rcases h3.peek with ⟨g1, g2, _, _⟩ | ⟨e, ja, jb, g1, g2, g3⟩
    · rw [g1, g2]; exact ⟨rfl, h3⟩
    · rw [g1, g2]
      simp only
      by_cases hn : e = '\n'
      · subst hn
        simp only [bne_self_eq_false, Bool.false_eq_true, ↓reduceIte]
        exact ⟨by first | rfl | trivial, h3⟩
      · have : (e != '\n') = true := by simp [hn]
        simp only [this, ↓reduceIte]
        exact escape_readEq s t ka kb e ja jb h3 g1 g2
  · simp only [hb, Bool.false_eq_true, ↓reduceIte]
    exact ⟨by first | rfl | trivial, h3⟩

theorem finishPop_rest (us : Bool) (s : LexSt) (e : List Char × Nat × List Diag × Nat) :
    (finishPop us s e).1.rest = s.rest.drop e.2.1 := by
  unfold finishPop
  simp only
  split
  · simp [advance]
  · split <;> simp [advance]

theorem finishPop_val (us : Bool) (s : LexSt) (e : List Char × Nat × List Diag × Nat) :
    (finishPop us s e).2 = some (if e.1 == ['\t'] && us then List.replicate (4 - (s.col - 1) % 4) ' ' else e.1) := by
  unfold finishPop
  simp only
  by_cases h1 : (e.1 == ['\n']) = true
  · have h2 : (e.1 == ['\t']) = false := by
      have : e.1 = ['\n'] := by simpa using h1
      rw [this]; decide
    simp [h1, h2]
  · simp only [h1, Bool.false_eq_true, ↓reduceIte]
    by_cases h2 : (e.1 == ['\t']) = true
    · simp only [h2, ↓reduceIte, Bool.true_and]
    · simp [h2]

/-- what two `pop`s have in common: the same characters — or, with `use_spaces`, two runs of blanks (an expanded tab) -/
def PopSim (us : Bool) : Option (List Char) → Option (List Char) → Prop
  | none, none => True
  | some v, some w => v = w ∨ (us = true ∧ (∃ n, 1 ≤ n ∧ v = List.replicate n ' ') ∧ (∃ m, 1 ≤ m ∧ w = List.replicate m ' '))
  | _, _ => False

/-- **One `pop` reads the same in both texts** (splices skipped, escapes taken whole). -/
theorem popOne_readEq (us ue : Bool) (s t : LexSt) (h : ReadEq s.rest t.rest) :
    ReadEq (popOne us ue s).1.rest (popOne us ue t).1.rest ∧ PopSim us (popOne us ue s).2 (popOne us ue t).2 := by
  obtain ⟨hr, hs⟩ := spliceLoop_readEq (s.rest.length + 1) (t.rest.length + 1) s t (by omega) (by omega) h
  obtain ⟨_, pa, _⟩ := spliceLoop_spec (s.rest.length + 1) s
  obtain ⟨_, pb, _⟩ := spliceLoop_spec (t.rest.length + 1) t
  unfold popOne
  cases hsa : spliceLoop (s.rest.length + 1) s with
  | mk s' ra =>
    cases hsb : spliceLoop (t.rest.length + 1) t with
    | mk t' rb =>
      rw [hsa] at hr hs pa
      rw [hsb] at hr hs pb
      simp only at hr hs pa pb
      rcases hs with ⟨rfl, rfl⟩ | ⟨c, ka, kb, rfl, rfl⟩
      · exact ⟨hr, trivial⟩
      · simp only
        have p1 := pa c ka rfl
        have p2 := pb c kb rfl
        obtain ⟨e1, e2⟩ := escOf_readEq ue s' t' c ka kb hr p1 p2
        refine ⟨by rw [finishPop_rest, finishPop_rest]; exact e2, ?_⟩
        rw [finishPop_val, finishPop_val]
        show PopSim us (some _) (some _)
        unfold PopSim
        rw [← e1]
        by_cases htab : ((escOf ue s' c ka).1 == ['\t'] && us) = true
        · simp only [htab, ↓reduceIte]
          right
          have : us = true := by
            simp only [Bool.and_eq_true] at htab; exact htab.2
          exact ⟨this, ⟨_, by omega, rfl⟩, ⟨_, by omega, rfl⟩⟩
        · simp only [htab, Bool.false_eq_true, ↓reduceIte]
          left; trivial

/-- without `use_spaces` the characters are the same -/
theorem popOne_readEq_ff (ue : Bool) (s t : LexSt) (h : ReadEq s.rest t.rest) :
    ReadEq (popOne false ue s).1.rest (popOne false ue t).1.rest ∧ (popOne false ue s).2 = (popOne false ue t).2 := by
  obtain ⟨h1, h2⟩ := popOne_readEq false ue s t h
  refine ⟨h1, ?_⟩
  cases ha : (popOne false ue s).2 with
  | none =>
    cases hb : (popOne false ue t).2 with
    | none => rfl
    | some w => rw [ha, hb] at h2; exact h2.elim
  | some v =>
    cases hb : (popOne false ue t).2 with
    | none => rw [ha, hb] at h2; exact h2.elim
    | some w =>
      rw [ha, hb] at h2
      rcases h2 with rfl | ⟨hf, _⟩
      · rfl
      · cases hf

end Norm
